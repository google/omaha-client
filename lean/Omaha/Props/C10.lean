/-
C10 — Every update outcome is reported to Omaha exactly once.

`sents` is the projection of a trace on the event-report requests put on the wire (their payload:
per app entry, the app id and the events it carries).  `pathBuilders` lists, for each path of a
check (C04's `Path`), the reports the state machine intends to send, as request builders; the
central theorem says the requests on the wire are exactly those, in order, minus the ones that
cannot be built — one request each, never repeated.  Per report, `reportEvent_lost` /
`reportResults_lost` say that an undelivered report is counted lost once per event it carried; and
C04's `performUpdateCheck_result` / `performUpdateCheck_marks` show that result and announcements
are functions of the path, on which delivery of reports has no influence.
-/
import Omaha.Props.C04
import Omaha.Lemmas.Store

namespace Omaha.SM

open Omaha

abbrev Payload := List (Bytes × List Omaha.Event)

def payloadOf (b : Request.Builder) : Payload := b.entries.map fun e => (e.app.id, e.events)

def πSent : Action → Option Payload
  | .http r _ => if r.kind = .eventReport then some (r.apps.map fun a => (a.id, a.events)) else none
  | _ => none

/-- Newest first. -/
def sents (w : World) : List Payload := proj πSent w

def NoSent (ok : Tag → Bool) : Prop := ok (.http .eventReport) = false

theorem πSent_none {ok : Tag → Bool} (h : NoSent ok) (a : Action) (ha : ok a.tag = true) : πSent a = none := by
  cases a with
  | http r o =>
    simp only [πSent]
    split
    · rename_i hk
      simp only [Action.tag, hk] at ha
      rw [h] at ha; cases ha
    · rfl
  | _ => rfl

theorem sents_of_steps {ok : Tag → Bool} (hq : NoSent ok) {w w' : World} (h : Steps { tag := ok } w w') :
    sents w' = sents w := proj_of_addsT πSent h.adds (πSent_none hq)

theorem sents_emit (a : Action) (w : World) : sents (emit a w) = (πSent a).toList ++ sents w := proj_emit _ _ _
theorem sents_yield (e : Event) (w : World) : sents (yieldEv e w) = sents w := proj_emit _ _ _

def tNoEv : Tag → Bool
  | .http k => k != .eventReport
  | _ => true

theorem noSent_tNoEv : NoSent tNoEv := rfl
theorem noSent_tBook : NoSent tBook := rfl

theorem sents_omahaRequest (b : Request.Builder) (w : World) :
    sents (omahaRequest .eventReport b w).2 =
      (if buildError w b = none then [payloadOf b] else []) ++ sents w := by
  unfold omahaRequest
  split
  · rename_i e he
    rw [sents_emit, he]; rfl
  · rename_i he
    rw [he, sents_of_steps noSent_tNoEv (steps_handleOutcome rfl rfl (.refl _))]
    unfold sents proj
    rw [sendRequest_mkReq]
    simp [πSent, mkReq, payloadOf, wireApps, List.map_map, Function.comp_def]

theorem buildError_requestId (w : World) (b : Request.Builder) (g : Option Bytes) :
    buildError w { b with requestId := g } = buildError w b := rfl

theorem buildError_withRequestId (b : Request.Builder) (w : World) :
    buildError (withRequestId b w).2 (withRequestId b w).1 = buildError w b := buildError_requestId w b _

/-- Can this report be put on the wire at all (URL and header values acceptable)? -/
def buildable (w : World) (b : Request.Builder) : Bool := (buildError w b).isNone

def sentOf (w : World) (bs : List Request.Builder) : List Payload :=
  ((bs.filter (buildable w)).map payloadOf).reverse

theorem sentOf_singleton (w : World) (b : Request.Builder) :
    sentOf w [b] = if buildable w b then [payloadOf b] else [] := by
  unfold sentOf
  cases h : buildable w b <;> simp [h]

theorem sentOf_append (w : World) (a b : List Request.Builder) : sentOf w (a ++ b) = sentOf w b ++ sentOf w a := by
  unfold sentOf; simp [List.filter_append]

theorem sentOf_frame {w w' : World} (f : Frame w w') (bs : List Request.Builder) : sentOf w' bs = sentOf w bs := by
  unfold sentOf buildable buildError
  rw [f.cfg, f.cup]

theorem sentOf_emit (a : Action) (w : World) (bs : List Request.Builder) : sentOf (emit a w) bs = sentOf w bs := rfl
theorem sentOf_yield (e : Event) (w : World) (bs : List Request.Builder) : sentOf (yieldEv e w) bs = sentOf w bs := rfl

theorem report_frame (b : Request.Builder) (lost : List Omaha.Event) (w : World) : Frame w (report b lost w) :=
  (steps_report (S := { tag := tQuiet }) rfl rfl rfl rfl rfl trivial (.refl w)).frame rfl

theorem report_sents (b : Request.Builder) (lost : List Omaha.Event) (w : World) :
    sents (report b lost w) = sentOf w [b] ++ sents w := by
  have key : sents (omahaRequest .eventReport (withRequestId b w).1 (withRequestId b w).2).2 = sentOf w [b] ++ sents w := by
    rw [sents_omahaRequest, sentOf_singleton, buildError_withRequestId, buildable]
    cases buildError w b <;> rfl
  unfold report
  split
  · exact key
  · exact (sents_of_steps noSent_tBook (steps_lost rfl (.refl _))).trans key

/-- **single_shot_reports (template).** A template report is one request with the template's
payload — or none when it cannot be built — and nothing else of that kind. -/
theorem reportEvent_sents (params : RequestParams) (ev : Omaha.Event) (apps : List App) (session : Nat)
    (nv : List (Bytes × Option Bytes)) (ns : Option Nat) (w : World) :
    sents (reportEvent params ev apps session nv ns w) =
      (if buildable w (eventBuilder params ev apps session nv ns)
       then [payloadOf (eventBuilder params ev apps session nv ns)] else []) ++ sents w := by
  rw [reportEvent_eq, report_sents, sentOf_singleton]

/-- **single_shot_reports (per-app results).** -/
theorem reportResults_sents (params : RequestParams) (evs : List (App × Omaha.Event)) (session : Nat) (w : World) :
    sents (reportResults params evs session w) =
      (if buildable w (resultsBuilder params evs session)
       then [payloadOf (resultsBuilder params evs session)] else []) ++ sents w := by
  rw [reportResults_eq, report_sents, sentOf_singleton]

def isLost : Action → Option Omaha.Event
  | .metric (.eventLost e) => some e
  | _ => none

def losts (w : World) : List Omaha.Event := proj isLost w

def delivered (b : Request.Builder) (w : World) : Bool := isOk (omahaRequest .eventReport (withRequestId b w).1 (withRequestId b w).2).1

theorem losts_request (k : ReqKind) (b : Request.Builder) (w : World) :
    losts (omahaRequest k (withRequestId b w).1 (withRequestId b w).2).2 = losts w :=
  proj_of_addsT isLost (steps_request (S := { tag := tReq k }) (by cases k <;> rfl) rfl rfl rfl trivial (.refl w)).adds
    (fun a ha => by
      cases a with
      | metric m => cases ha
      | _ => rfl)

theorem report_lost (b : Request.Builder) (lost : List Omaha.Event) (w : World) :
    losts (report b lost w) = (if delivered b w then [] else lost.reverse) ++ losts w := by
  have key := losts_request .eventReport b w
  unfold report delivered
  cases (omahaRequest .eventReport (withRequestId b w).1 (withRequestId b w).2).1 with
  | ok body => exact key
  | error f =>
    rw [← key]
    exact (proj_foldl_emit isLost (fun e => .metric (.eventLost e)) id (fun _ => rfl) lost _).trans
      (by rw [List.map_id]; rfl)

/-- **lost_once (template).** An undelivered template report is counted lost exactly once; a
delivered one not at all. -/
theorem reportEvent_lost (params : RequestParams) (ev : Omaha.Event) (apps : List App) (session : Nat)
    (nv : List (Bytes × Option Bytes)) (ns : Option Nat) (w : World) :
    losts (reportEvent params ev apps session nv ns w) =
      (if delivered (eventBuilder params ev apps session nv ns) w then [] else [ev]) ++ losts w := by
  rw [reportEvent_eq, report_lost]; rfl

theorem losts_fold (evs : List (App × Omaha.Event)) (w : World) :
    losts (evs.foldl (fun w (x : App × Omaha.Event) => metric (.eventLost x.2) w) w) =
      (evs.map (·.2)).reverse ++ losts w :=
  proj_foldl_emit isLost (fun x : App × Omaha.Event => .metric (.eventLost x.2)) (·.2) (fun _ => rfl) evs w

/-- **lost_once (per-app results).** An undelivered per-app report is counted lost once for each
event it carried, in order. -/
theorem reportResults_lost (params : RequestParams) (evs : List (App × Omaha.Event)) (session : Nat) (w : World) :
    losts (reportResults params evs session w) =
      (if delivered (resultsBuilder params evs session) w then [] else (evs.map (·.2)).reverse) ++ losts w := by
  rw [reportResults_eq, report_lost]

/-- In the order they are sent. `ns` is the measured install duration. -/
def pathBuilders (params : RequestParams) (apps : List App) (session : Nat) (ns : Option Nat) : Path → List Request.Builder
  | .noResponse _ => []
  | .outside => []
  | .noUpdate _ => []
  | .unparseable => [eventBuilder params (eventError 0) apps session (apps.map fun a => (a.id, none)) none]
  | .planFailed r => [eventBuilder params (eventError 1) apps session (nextVersions r) none]
  | .deferred r => [eventBuilder params eventDeferred apps session (nextVersions r) none]
  | .denied r => [eventBuilder params (eventError 3) apps session (nextVersions r) none]
  | .installed r _ rs =>
    [eventBuilder params (eventSuccess 13) apps session (nextVersions r) none,
     resultsBuilder params (resultEvents (knownResults apps r rs) ns) session] ++
    (if (installedApps (knownResults apps r rs)).isEmpty then []
     else [eventBuilder params (eventSuccess 3) (installedApps (knownResults apps r rs)) session (nextVersions r) ns])

theorem sents_reportEvent (params : RequestParams) (ev : Omaha.Event) (apps : List App) (session : Nat)
    (nv : List (Bytes × Option Bytes)) (ns : Option Nat) (w : World) :
    sents (reportEvent params ev apps session nv ns w) = sentOf w [eventBuilder params ev apps session nv ns] ++ sents w := by
  rw [reportEvent_eq, report_sents]

theorem reportInstall_sents (params : RequestParams) (apps : List App) (session : Nat) (nv : List (Bytes × Option Bytes))
    (response : Resp.Response) (results : List AppResult) (ns : Option Nat) (w : World) :
    sents (reportInstall params apps session nv response results ns w) =
      sentOf w ([resultsBuilder params (resultEvents (knownResults apps response results) ns) session] ++
        (if (installedApps (knownResults apps response results)).isEmpty then []
         else [eventBuilder params (eventSuccess 3) (installedApps (knownResults apps response results)) session nv ns])) ++
        sents w := by
  unfold reportInstall
  simp only
  split
  · rw [List.append_nil, reportResults_eq, report_sents]
  · rw [sents_reportEvent, reportResults_eq, sentOf_frame (report_frame _ _ w), report_sents, sentOf_append,
      List.append_assoc]

theorem finishInstall_sents (planId : Nat) (firstSeen finish : Int) (nv : List (Bytes × Option Bytes))
    (response : Resp.Response) (results : List AppResult) (w : World) :
    sents (finishInstall planId firstSeen finish nv response results w).2 = sents w := by
  unfold finishInstall
  split
  · exact sents_of_steps noSent_tNoEv (steps_yield rfl (steps_insterrFold rfl (.refl w)))
  · exact sents_of_steps noSent_tNoEv (steps_recordFinish rfl rfl rfl (.refl w))

theorem installPhase_sents (params : RequestParams) (apps : List App) (session : Nat)
    (response : Resp.Response) (planId : Nat) (w0 w : World) (f0 : Frame w0 w) :
    ∃ ns, sents (installPhase params apps session (nextVersions response) response planId w).2 =
      sentOf w0 (pathBuilders params apps session ns (.installed response planId w.env.results)) ++ sents w := by
  obtain ⟨firstSeen, ns, w2, w4, h2, h4, e⟩ :=
    installPhase_parts params apps session (nextVersions response) response planId w
  have f1 : Frame w0 (yieldEv (.state .installing) w) := f0.trans (frame_yield _ w)
  have f4 : Frame w0 w4 := (((f1.trans ((reportEvent_quiet ..).frame rfl)).trans (h2.frame rfl)).trans
    (frame_of_steps (steps_runInstall rfl rfl (.refl w2)))).trans (h4.frame rfl)
  refine ⟨ns, ?_⟩
  rw [e, finishInstall_sents, reportInstall_sents, sentOf_frame f4, sents_of_steps noSent_tBook h4,
    sents_of_steps noSent_tNoEv (steps_runInstall rfl rfl (.refl w2)), sents_of_steps noSent_tBook h2,
    sents_reportEvent, sentOf_frame f1, sents_yield, ← List.append_assoc, ← sentOf_append]
  rfl

section
variable {params : RequestParams} {apps : List App} {session : Nat} {r : Resp.Response} {w : World}
  {p : Path} {res : CheckResult × World}

theorem UpdateRun.sents_eq (h : UpdateRun params apps session r w p res) :
    ∃ ns, sents res.2 = sentOf w (pathBuilders params apps session ns p) ++ sents w := by
  cases h with
  | planFailed =>
    refine ⟨none, ?_⟩
    rw [planFailedPhase, sents_reportEvent, sentOf_yield, sentOf_yield, sentOf_emit, sents_yield, sents_yield, sents_emit]
    rfl
  | deferred =>
    refine ⟨none, ?_⟩
    rw [deferredPhase, sents_yield, sents_reportEvent, sentOf_emit, sentOf_emit, sents_emit, sents_emit]
    rfl
  | denied =>
    refine ⟨none, ?_⟩
    rw [deniedPhase, sents_reportEvent, sentOf_emit, sentOf_emit, sents_emit, sents_emit]
    rfl
  | installed planId =>
    obtain ⟨ns, e⟩ := installPhase_sents params apps session r planId w _ ((frame_emit _ w).trans (frame_emit _ _))
    rw [sents_emit, sents_emit] at e
    exact ⟨ns, e⟩

theorem ResponseRun.sents_eq (h : ResponseRun params apps session w p res) :
    ∃ ns, sents res.2 = sentOf w (pathBuilders params apps session ns p) ++ sents w := by
  cases h with
  | outside => exact ⟨none, rfl⟩
  | unparseable => exact ⟨none, by rw [parseFailedPhase, sents_reportEvent, sentOf_yield, sents_yield]; rfl⟩
  | noUpdate => exact ⟨none, by rw [noUpdatePhase, sents_yield, sents_yield]; rfl⟩
  | update r hu =>
    obtain ⟨ns, e⟩ := hu.sents_eq
    rw [sentOf_yield, sents_yield] at e
    exact ⟨ns, e⟩

end

/-- **reports_by_path.** For every world and environment, the event reports a check puts on the
wire after its response are exactly the reports of its path, in order, each at most once (those
that cannot be built at all are dropped — and counted lost, see `reportEvent_lost`). -/
theorem responsePhase_sents (params : RequestParams) (apps : List App) (session : Nat) (body : Bytes) (w : World) :
    ∃ ns, sents (responsePhase params apps session body w).2 =
      sentOf w (pathBuilders params apps session ns (pathOf (.ok body) w.env)) ++ sents w :=
  (responsePhase_run params apps session body w).sents_eq

theorem requestPhase_sents (params : RequestParams) (apps : List App) (w : World) :
    sents (requestPhase params apps w).2.2 = sents w := by
  unfold requestPhase
  exact (sents_of_steps noSent_tNoEv (steps_attemptLoop rfl rfl rfl rfl rfl rfl rfl (fun _ => trivial)
    (steps_nextGuid (steps_reportCheckInterval rfl (.refl _))))).trans (sents_yield _ w)

/-- **reports_by_path (whole check).** -/
theorem performUpdateCheck_sents (params : RequestParams) (apps : List App) (w : World) :
    ∃ ns, sents (performUpdateCheck params apps w).2 =
      sentOf w (pathBuilders params apps (sessionOf params w) ns (pathOf (requestPhase params apps w).1 w.env)) ++ sents w := by
  cases h : (requestPhase params apps w).1 with
  | error f => exact ⟨none, by rw [performUpdateCheck_eq, h, metric, sents_emit, requestPhase_sents]; rfl⟩
  | ok body =>
    obtain ⟨hf, hr⟩ := performUpdateCheck_run params apps w h
    obtain ⟨ns, e⟩ := hr.sents_eq
    rw [sentOf_frame hf, metric, sents_emit, requestPhase_sents] at e
    exact ⟨ns, e⟩

def appEvent (ev : Omaha.Event) (a : App) (next : Option Bytes) (ns : Option Nat) : Omaha.Event :=
  { ev with previousVersion := some (Version.print a.version), nextVersion := next, downloadTimeMs := ns.bind durationMs }

theorem eventBuilder_entries (params : RequestParams) (ev : Omaha.Event) (apps : List App) (session : Nat)
    (nv : List (Bytes × Option Bytes)) (ns : Option Nat) (hnd : (apps.map (·.id)).Nodup) :
    (eventBuilder params ev apps session nv ns).entries =
      apps.filterMap fun a => (lookup a.id nv).map fun next =>
        ({ app := a, events := [appEvent ev a next ns] } : Request.AppEntry) := by
  unfold eventBuilder
  refine (foldl_entries params _ _ (fun b a hp h => ⟨?_, ?_⟩) (fun a e h => ?_) apps _ rfl hnd
    (fun e he => by cases he)).trans (List.nil_append _)
  · cases lookup a.id nv <;> exact hp
  · cases lookup a.id nv with
    | none => exact (List.append_nil _).symm
    | some next => exact insertAndModify_new _ _ _ h
  · obtain ⟨next, _, rfl⟩ := Option.map_eq_some_iff.1 h
    rfl

/-- **event_fields.** With distinct app ids, a template report carries, for exactly the apps of the
set that have an entry in the next-version table (the known apps offered an update) and in
app-set order, one event each: the template with the app's current version as previous version and
the table's entry (the manifest version, if any) as next version. -/
theorem eventBuilder_payload (params : RequestParams) (ev : Omaha.Event) (apps : List App) (session : Nat)
    (nv : List (Bytes × Option Bytes)) (ns : Option Nat) (hnd : (apps.map (·.id)).Nodup) :
    payloadOf (eventBuilder params ev apps session nv ns) =
      apps.filterMap fun a => (lookup a.id nv).map fun next => (a.id, [appEvent ev a next ns]) := by
  unfold payloadOf
  rw [eventBuilder_entries params ev apps session nv ns hnd, List.map_filterMap]
  congr 1
  funext a
  cases lookup a.id nv <;> rfl

theorem lookup_foldSet {α} (k : Bytes) (f : α → Bytes) (g : α → Option Bytes) (l : List α) (acc : List (Bytes × Option Bytes)) :
    (lookup k (l.foldl (fun acc a => setAssoc (f a) (g a) acc) acc)).isSome =
      ((lookup k acc).isSome || l.any fun a => f a == k) := by
  induction l generalizing acc with
  | nil => exact (Bool.or_false _).symm
  | cons a rest ih =>
    rw [List.foldl_cons, List.any_cons, ih, lookup_setAssoc]
    by_cases h : f a = k
    · rw [if_pos h, beq_iff_eq.2 h, Bool.true_or, Bool.or_true]; rfl
    · rw [if_neg h, beq_eq_false_iff_ne.2 h, Bool.false_or]

theorem nextVersions_has (r : Resp.Response) (k : Bytes) :
    (lookup k (nextVersions r)).isSome = (offeredApps r).any fun a => a.id == k := by
  unfold nextVersions offeredApps
  have := lookup_foldSet k (fun a : Resp.App => a.id) (fun a => a.manifestVersion) (r.apps.filter isOffered) []
  simp only [lookup, Option.isSome_none, Bool.false_or] at this
  exact this

/-- The parse-error report lists every app of the set, with no next version. -/
theorem parseError_all_apps (apps : List App) (a : App) (h : a ∈ apps) :
    (lookup a.id (apps.map fun a => (a.id, (none : Option Bytes)))).isSome := by
  induction apps with
  | nil => cases h
  | cons x xs ih =>
    rw [List.map_cons, lookup]
    split
    · rfl
    · rename_i hx
      exact ih ((List.mem_cons.1 h).resolve_left fun e => hx (e ▸ rfl))

/-- Event codes of the protocol table. -/
theorem event_codes :
    (eventError 0).eventType = 3 ∧ (eventError 0).eventResult = 0 ∧ (eventError 0).errorcode = some 0 ∧
    (eventError 1).errorcode = some 1 ∧ (eventError 3).errorcode = some 3 ∧ (eventError 2).errorcode = some 2 ∧
    eventDeferred.eventType = 3 ∧ eventDeferred.eventResult = 9 ∧
    (eventSuccess 13).eventType = 13 ∧ (eventSuccess 13).eventResult = 1 ∧
    (eventSuccess 14).eventType = 14 ∧ (eventSuccess 3).eventType = 3 ∧ (eventSuccess 3).eventResult = 1 ∧
    resultEvent .installed = eventSuccess 14 ∧ resultEvent .deferred = eventDeferred ∧
    (∀ m, resultEvent (.failed m) = eventError 2) := by
  refine ⟨rfl, rfl, rfl, rfl, rfl, rfl, rfl, rfl, rfl, rfl, rfl, rfl, rfl, rfl, rfl, fun _ => rfl⟩

/-- The update-complete report goes to exactly the apps whose installer result was Installed. -/
theorem installedApps_spec (known : List (App × Resp.App × AppResult)) (a : App) :
    a ∈ installedApps known ↔ ∃ ra, (a, ra, AppResult.installed) ∈ known := by
  rw [installedApps, List.mem_filterMap]
  constructor
  · rintro ⟨⟨x, ra, r⟩, hm, h⟩
    cases r <;> simp at h
    subst h; exact ⟨ra, hm⟩
  · rintro ⟨ra, hm⟩
    exact ⟨(a, ra, .installed), hm, rfl⟩

/-! ### Non-vacuity -/

example : payloadOf (eventBuilder {} eventDeferred
    [{ id := [97], version := ⟨1, 2, 3, 4⟩ }, { id := [98], version := ⟨5, 0, 0, 0⟩ }] 7 [([98], some [50])] none) =
    [([98], [{ eventType := 3, eventResult := 9, previousVersion := some (Version.print ⟨5, 0, 0, 0⟩), nextVersion := some [50] }])] := by
  decide +kernel

end Omaha.SM
