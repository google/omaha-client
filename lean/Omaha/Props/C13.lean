/-
C13 — Event stream is ordered, lossless and back-pressured.

Theorems about `Omaha.Gen` (the model of async_generator.rs on a zero-capacity channel), for every
program of the generator task and every schedule of polls and external events — by an invariant
(`GInv`) over all reachable states — plus the state-machine-level statement about install
progress.

`poll_next` is the task's poll followed by the receiver's half (`recv`, `pollNext_eq`). The task's
poll is analysed along `runOps` / `pollTask` (`fun_induction`, `fun_cases`), the receiver's half
through its five outcomes (`RecvCase`).
-/
import Omaha.Gen
import Omaha.SM.Model

namespace Omaha.Gen

def opsOf : Task → List Op
  | .run ops | .afterWake ops | .waiting _ ops | .sending _ ops => ops
  | .done => []

def todoTask : Task → List Nat
  | .sending xs ops => xs ++ yieldsOf ops
  | .done => []
  | t => yieldsOf (opsOf t)

def todo (s : St) : List Nat := if s.senderAlive then todoTask s.task else []

/-- `delivered`: items the consumer has received so far; `completed`: it has received `Complete`. -/
structure GInv (prog : List Op) (delivered : List Nat) (completed : Bool) (s : St) : Prop where
  conserve : delivered ++ s.queue ++ todo s = yieldsOf prog
  parked_iff : s.parked = !s.queue.isEmpty
  queue_le : s.queue.length ≤ 1
  parked_sending : s.parked = true → ∃ xs ops, s.task = .sending xs ops
  ret_ok : s.task ≠ .done → retOf (opsOf s.task) = retOf prog
  res_ok : ∀ r, s.res = some r → r = retOf prog ∧ s.task = .done
  done_closed : s.task = .done → s.senderAlive = false ∧ s.queue = []
  term_closed : s.recvTerminated = true → s.senderAlive = false ∧ s.queue = []
  not_completed : completed = false → s.task = .done → s.res.isSome = true
  completed_final : completed = true → s.task = .done ∧ s.res = none ∧ s.recvTerminated = true
  sending_alive : ∀ xs ops, s.task = .sending xs ops → s.senderAlive = true

theorem init_inv (prog : List Op) : GInv prog [] false (init prog) := by
  constructor <;> simp [init, todo, todoTask, opsOf]

-- A state that differs from `s` only in fields the invariant does not read satisfies it by
-- `{ h with }`; where a step changes some of the others, `{ h with … }` lists the clauses it affects.

theorem GInv.queue_nil {prog : List Op} {d : List Nat} {c : Bool} {s : St} (h : GInv prog d c s)
    (hp : s.parked = false) : s.queue = [] := by
  simpa [hp] using h.parked_iff.symm

theorem GInv.unparked {prog : List Op} {d : List Nat} {c : Bool} {s : St} (h : GInv prog d c s)
    (hns : ∀ xs ops, s.task ≠ .sending xs ops) : s.parked = false := by
  cases hp : s.parked with
  | false => rfl
  | true => obtain ⟨xs, ops, e⟩ := h.parked_sending hp; exact absurd e (hns xs ops)

theorem GInv.incomplete {prog : List Op} {d : List Nat} {c : Bool} {s : St} (h : GInv prog d c s)
    (hn : ¬(s.task = .done ∧ s.res = none ∧ s.recvTerminated = true)) : c = false := by
  cases c with
  | false => rfl
  | true => exact absurd (h.completed_final rfl) hn

theorem GInv.running {prog : List Op} {d : List Nat} {c : Bool} {s : St} (h : GInv prog d c s)
    (hnd : s.task ≠ .done) : c = false ∧ s.res = none := by
  refine ⟨h.incomplete fun hd => hnd hd.1, ?_⟩
  cases hr : s.res with
  | none => rfl
  | some r => exact absurd (h.res_ok r hr).2 hnd

structure RunPost (prog : List Op) (ops : List Op) (s s' : St) : Prop where
  conserve : s'.queue ++ todo s' = if s.senderAlive then yieldsOf ops else []
  parked_iff : s'.parked = !s'.queue.isEmpty
  queue_le : s'.queue.length ≤ 1
  parked_sending : s'.parked = true → ∃ xs o, s'.task = .sending xs o
  ret_ok : s'.task ≠ .done → retOf (opsOf s'.task) = retOf ops
  res_ok : (s'.task = .done → s'.res = some (retOf ops) ∧ s'.senderAlive = false ∧ s'.queue = []) ∧
           (s'.task ≠ .done → s'.res = s.res)
  term : s'.recvTerminated = s.recvTerminated
  alive : s'.senderAlive = true → s.senderAlive = true
  fired : s'.fired = s.fired
  sending_alive : ∀ xs o, s'.task = .sending xs o → s'.senderAlive = true

@[simp] theorem closeSender_eq (s : St) : closeSender s =
    { s with senderAlive := false, woken := s.woken || s.senderAlive && s.recvRegistered,
             recvRegistered := !s.senderAlive && s.recvRegistered } := by
  rcases s with ⟨_, _, _, _ | _⟩ <;> simp [closeSender]

/-- `RunPost` reads `ops` only through `yieldsOf` and `retOf`, and the start state only through four fields. -/
theorem RunPost.of_eq {prog ops ops' : List Op} {s s1 s' : St} (h : RunPost prog ops s1 s')
    (hy : (if s.senderAlive then yieldsOf ops' else []) = if s1.senderAlive then yieldsOf ops else [])
    (hr : retOf ops' = retOf ops) (h1 : s1.res = s.res) (h2 : s1.recvTerminated = s.recvTerminated)
    (h3 : s1.senderAlive = true → s.senderAlive = true) (h4 : s1.fired = s.fired) : RunPost prog ops' s s' :=
  { h with
    conserve := hy ▸ h.conserve, ret_ok := hr ▸ h.ret_ok, res_ok := hr ▸ h1 ▸ h.res_ok, term := h.term.trans h2,
    alive := fun a => h3 (h.alive a), fired := h.fired.trans h4 }

theorem runOps_post (prog : List Op) (ops : List Op) (s : St) (hq : s.queue = []) (hp : s.parked = false) :
    RunPost prog ops s (runOps ops s) := by
  fun_induction runOps ops s with
  | case1 | case2 =>                                        -- end of program, `ret`
    rw [finish, closeSender_eq]
    constructor <;> simp [hq, hp, todo, retOf, yieldsOf]
  | case3 ops s ih =>                                       -- `dropHandle`
    rw [closeSender_eq] at ih ⊢
    exact (ih hq hp).of_eq (by simp [yieldsOf]) rfl rfl rfl nofun rfl
  | case5 k ops s _ ih | case12 ops s _ _ ih =>             -- event already fired, empty `yieldAll`: nothing to do
    exact (ih hq hp).of_eq rfl rfl rfl rfl id rfl
  | case7 x ops s ha ih | case10 xs ops s ha ih =>          -- handle dropped: skipped
    have ha : s.senderAlive = false := by simpa using ha
    exact (ih hq hp).of_eq (by rw [ha]; rfl) rfl rfl rfl id rfl
  | case4 | case6 =>                                        -- `selfWake`, `extWait` suspend
    exact {
      conserve := by simp [hq, todo, todoTask, opsOf, yieldsOf]
      parked_iff := by simp [hq, hp]
      queue_le := by simp [hq]
      parked_sending := by simp [hp]
      ret_ok := fun _ => rfl
      res_ok := ⟨nofun, fun _ => rfl⟩
      term := rfl
      alive := id
      fired := rfl
      sending_alive := nofun }
  | case9 x ops s ha | case14 ops s ha x rest =>            -- `yield`, `yieldAll` push an item
    have ha : s.senderAlive = true := by simpa using ha
    exact {
      conserve := by simp +zetaDelta [hq, ha, push, todo, todoTask, yieldsOf]
      parked_iff := by simp +zetaDelta [hq, push]
      queue_le := by simp +zetaDelta [hq, push]
      parked_sending := fun _ => ⟨_, _, rfl⟩
      ret_ok := fun _ => rfl
      res_ok := ⟨nofun, fun _ => rfl⟩
      term := rfl
      alive := fun _ => ha
      fired := rfl
      sending_alive := fun _ _ _ => ha }
  | case8 | case11 | case13 => simp_all                     -- parked: excluded by `hp`

theorem ginv_run {prog : List Op} {d : List Nat} {c : Bool} {s : St} {t : Task} {ops : List Op} (h : GInv prog d c s)
    (ht : s.task = t) (hp : s.parked = false) (hnd : t ≠ .done) (htodo : todoTask t = yieldsOf ops)
    (hret : retOf ops = retOf (opsOf t)) : GInv prog d c (runOps ops s) := by
  subst ht
  have hq := h.queue_nil hp
  have p := runOps_post prog ops s hq hp
  obtain ⟨hc, hres⟩ := h.running hnd
  have hret := hret.trans (h.ret_ok hnd)
  refine ⟨?_, p.parked_iff, p.queue_le, p.parked_sending, fun hd => (p.ret_ok hd).trans hret, ?_, fun hd => (p.res_ok.1 hd).2,
    ?_, fun _ hd => by simp [(p.res_ok.1 hd).1], by simp [hc], p.sending_alive⟩
  · have := h.conserve
    rw [hq, List.append_nil, todo, htodo] at this
    rwa [List.append_assoc, p.conserve]
  · intro r hr
    by_cases hd : (runOps ops s).task = .done
    · exact ⟨by simpa [(p.res_ok.1 hd).1, hret] using hr.symm, hd⟩
    · simp [p.res_ok.2 hd, hres] at hr
  · intro ht
    have hal := (h.term_closed (p.term ▸ ht)).1
    have := p.conserve
    simp [hal] at this
    exact ⟨by simpa [hal] using p.alive, this.1⟩

theorem pollTask_inv {prog : List Op} {d : List Nat} {c : Bool} {s : St} (h : GInv prog d c s) :
    GInv prog d c (pollTask s) := by
  fun_cases pollTask s with
  | case1 | case6 => exact h
  | case2 ops ht | case3 ops ht => exact ginv_run h ht (h.unparked (by simp [ht])) nofun rfl rfl
  | case4 k ops ht =>
    have h1 : GInv prog d c { s with extRegistered := none } := { h with }
    exact ginv_run h1 ht (h.unparked (by simp [ht])) nofun rfl rfl
  | case5 => exact { h with }
  | case7 ops hp ht => exact ginv_run h ht (by simpa using hp) nofun rfl rfl
  | case8 ops hp x rest src ht =>
    -- pushing the next item of a `yield_all` is what `runOps` does at `yieldAll (x :: rest)`
    have hp : s.parked = false := by simpa using hp
    have e : runOps (.yieldAll (x :: rest) :: ops) s = { push x s with task := .sending rest ops } := by
      simp [runOps, hp, h.sending_alive _ _ ht]
    exact e ▸ ginv_run h ht hp nofun rfl rfl

def after (d : List Nat) (c : Bool) : PollResult → List Nat × Bool
  | .item x => (d ++ [x], c)
  | .complete _ => (d, true)
  | _ => (d, c)

def resultOk (prog : List Op) (d : List Nat) (c : Bool) : PollResult → Prop
  | .item _ => c = false
  | .pending => c = false
  | .complete r => c = false ∧ d = yieldsOf prog ∧ r = retOf prog
  | .none => c = true

/-- The receiver half of `poll_next` (the text of `pollNext` after the task has been polled). -/
def recv (taskIsDone : Bool) (s : St) : PollResult × St :=
  let (early, s) : Option PollResult × St :=
    if s.recvTerminated then (Option.none, s)
    else
      match s.queue with
      | x :: rest =>
        (some (.item x), { s with queue := rest, woken := s.woken || s.parked, parked := false })
      | [] =>
        if !s.senderAlive then (Option.none, { s with recvTerminated := true })
        else (some .pending, { s with recvRegistered := true })
  match early with
  | some r => (r, s)
  | Option.none =>
    if !taskIsDone then (.pending, s)
    else
      match s.res with
      | some r => (.complete r, { s with res := Option.none })
      | Option.none => (.none, s)

theorem pollTask_done {s : St} (h : s.task = .done) : pollTask s = s := by
  unfold pollTask; rw [h]

theorem pollNext_eq (s : St) :
    pollNext s = recv (taskDone (pollTask { s with woken := false })) (pollTask { s with woken := false }) := by
  show recv (taskDone { s with woken := false } || _) _ = _
  cases hd : taskDone { s with woken := false } with
  | false => rfl
  | true => rw [pollTask_done (by simpa [taskDone] using hd), hd]; rfl

/-- The channel will deliver nothing more, and the receiver has seen that or sees it now. -/
def Closed (s : St) : Prop := s.recvTerminated = true ∨ s.queue = [] ∧ s.senderAlive = false

inductive RecvCase (td : Bool) (s : St) : PollResult × St → Prop
  | item (x rest) : s.recvTerminated = false → s.queue = x :: rest →
      RecvCase td s (.item x, { s with queue := rest, woken := s.woken || s.parked, parked := false })
  | wait : s.recvTerminated = false → s.queue = [] → s.senderAlive = true →
      RecvCase td s (.pending, { s with recvRegistered := true })
  | busy : Closed s → td = false → RecvCase td s (.pending, { s with recvTerminated := true })
  | complete (r) : Closed s → td = true → s.res = some r →
      RecvCase td s (.complete r, { s with recvTerminated := true, res := none })
  | over : Closed s → td = true → s.res = none → RecvCase td s (.none, { s with recvTerminated := true })

theorem recv_case (td : Bool) (s : St) : RecvCase td s (recv td s) := by
  rcases s with ⟨t, q, p, a, rr, rt, res⟩
  cases rt <;> cases q <;> cases a <;> cases td <;> cases res <;> constructor <;> simp [Closed]

theorem recv_task (td : Bool) (s : St) : (recv td s).2.task = s.task := by
  have hr := recv_case td s
  generalize recv td s = p at hr
  cases hr <;> rfl

theorem GInv.closed {prog : List Op} {d : List Nat} {c : Bool} {s : St} (h : GInv prog d c s) (hc : Closed s) :
    s.senderAlive = false ∧ s.queue = [] :=
  hc.elim h.term_closed fun ⟨hq, ha⟩ => ⟨ha, hq⟩

theorem recv_inv {prog : List Op} {d : List Nat} {c : Bool} {s : St} (h : GInv prog d c s) :
    resultOk prog d c (recv (taskDone s) s).1 ∧
    GInv prog (after d c (recv (taskDone s) s).1).1 (after d c (recv (taskDone s) s).1).2 (recv (taskDone s) s).2 := by
  have hr := recv_case (taskDone s) s
  generalize recv (taskDone s) s = p at hr ⊢
  cases hr with
  | item x rest hrt hq =>
    obtain rfl := h.incomplete (by simp [hrt])
    obtain rfl : rest = [] := by simpa [hq] using h.queue_le
    exact ⟨rfl, { h with
      conserve := by simpa [after, todo, hq] using h.conserve
      parked_iff := rfl
      queue_le := Nat.zero_le 1
      parked_sending := nofun
      done_closed := fun hd => ⟨(h.done_closed hd).1, rfl⟩
      term_closed := by simp [hrt]
      completed_final := nofun }⟩
  | wait hrt hq ha => exact ⟨h.incomplete (by simp [hrt]), { h with }⟩
  | busy hcl htd =>
    obtain rfl := (h.running (by simpa [taskDone] using htd)).1
    exact ⟨rfl, { h with term_closed := fun _ => h.closed hcl, completed_final := nofun }⟩
  | complete r hcl htd hres =>
    have hd : s.task = .done := by simpa [taskDone] using htd
    obtain ⟨ha, hq⟩ := h.closed hcl
    exact ⟨⟨h.incomplete (by simp [hres]), by simpa [todo, ha, hq] using h.conserve, (h.res_ok r hres).1⟩, { h with
      res_ok := nofun
      term_closed := fun _ => ⟨ha, hq⟩
      not_completed := nofun
      completed_final := fun _ => ⟨hd, rfl, rfl⟩ }⟩
  | over hcl htd hres =>
    have hd : s.task = .done := by simpa [taskDone] using htd
    have hc : c = true := by
      cases c with
      | true => rfl
      | false => simpa [hres] using h.not_completed rfl hd
    exact ⟨hc, { h with term_closed := fun _ => h.closed hcl, completed_final := fun _ => ⟨hd, hres, rfl⟩ }⟩

theorem pollNext_inv {prog : List Op} {d : List Nat} {c : Bool} {s : St} (h : GInv prog d c s) :
    resultOk prog d c (pollNext s).1 ∧
    GInv prog (after d c (pollNext s).1).1 (after d c (pollNext s).1).2 (pollNext s).2 := by
  rw [pollNext_eq]
  exact recv_inv (pollTask_inv (s := { s with woken := false }) { h with })

theorem fire_inv {prog : List Op} {d : List Nat} {c : Bool} {s : St} (k : Nat) (h : GInv prog d c s) :
    GInv prog d c (fire k { s with woken := false }) :=
  { h with }

def resultOf : Obs → Option PollResult
  | .polled r _ _ => some r
  | .fired _ => none

def results (obs : List Obs) : List PollResult := obs.filterMap resultOf

def AllOk (prog : List Op) : List Nat → Bool → List PollResult → Prop
  | _, _, [] => True
  | d, c, r :: rest => resultOk prog d c r ∧ AllOk prog (after d c r).1 (after d c r).2 rest

def itemOf : PollResult → Option Nat
  | .item x => some x
  | _ => none

def itemsOf (rs : List PollResult) : List Nat := rs.filterMap itemOf

def isComplete : PollResult → Bool
  | .complete _ => true
  | _ => false

@[simp] theorem itemsOf_item (x : Nat) (rs : List PollResult) : itemsOf (.item x :: rs) = x :: itemsOf rs := rfl
@[simp] theorem itemsOf_pending (rs : List PollResult) : itemsOf (.pending :: rs) = itemsOf rs := rfl
@[simp] theorem itemsOf_complete (r : Nat) (rs : List PollResult) : itemsOf (.complete r :: rs) = itemsOf rs := rfl
@[simp] theorem itemsOf_none (rs : List PollResult) : itemsOf (.none :: rs) = itemsOf rs := rfl
@[simp] theorem itemsOf_nil : itemsOf [] = [] := rfl
@[simp] theorem results_polled (r : PollResult) (w t : Bool) (obs : List Obs) :
    results (.polled r w t :: obs) = r :: results obs := rfl
@[simp] theorem results_fired (w : Bool) (obs : List Obs) : results (.fired w :: obs) = results obs := rfl
@[simp] theorem results_nil : results [] = [] := rfl

theorem after_append (d : List Nat) (c : Bool) (r : PollResult) (rs : List PollResult) :
    (after d c r).1 ++ itemsOf rs = d ++ itemsOf (r :: rs) ∧
    ((after d c r).2 || rs.any isComplete) = (c || (r :: rs).any isComplete) := by
  cases r <;> simp [after, isComplete]

theorem drive_inv {prog : List Op} (sched : List Step) {d : List Nat} {c : Bool} {s : St} (h : GInv prog d c s) :
    AllOk prog d c (results (drive s sched)) ∧
    GInv prog (d ++ itemsOf (results (drive s sched))) (c || (results (drive s sched)).any isComplete)
      (finalState s sched) := by
  induction sched generalizing d c s with
  | nil => simpa [drive, finalState, AllOk] using h
  | cons e rest ih =>
    cases e with
    | poll =>
      obtain ⟨h1, h2⟩ := pollNext_inv h
      obtain ⟨i1, i2⟩ := ih h2
      obtain ⟨a1, a2⟩ := after_append d c (pollNext s).1 (results (drive (pollNext s).2 rest))
      exact ⟨⟨h1, i1⟩, a1 ▸ a2 ▸ i2⟩
    | fire k => exact ih (fire_inv k h)

theorem drive_ok (prog : List Op) (sched : List Step) (d : List Nat) (c : Bool) (s : St) (h : GInv prog d c s) :
    AllOk prog d c (results (drive s sched)) :=
  (drive_inv sched h).1

/-- Items delivered so far plus what is queued plus what the task has still to push is always the
program's yield sequence: nothing lost, nothing duplicated, nothing reordered. -/
theorem drive_conserve (prog : List Op) (sched : List Step) (d : List Nat) (c : Bool) (s : St) (h : GInv prog d c s) :
    ∃ c', GInv prog (d ++ itemsOf (results (drive s sched))) c' (finalState s sched) :=
  ⟨_, (drive_inv sched h).2⟩

/-- **stream_is_fifo.** For every program and every schedule (spurious polls, early, late and repeated
external events included) the items the consumer receives are a prefix of the program's yields, in
program order — each at most once, none skipped. -/
theorem stream_is_fifo (prog : List Op) (sched : List Step) :
    itemsOf (results (drive (init prog) sched)) <+: yieldsOf prog :=
  ⟨_, by simpa using (drive_inv sched (init_inv prog)).2.conserve⟩

/-- **completes_once.** In every run: `Complete r` is returned at most once, only after every yielded
item has been delivered, with the program's return value; before it every poll returns an item or
Pending; after it every poll returns `None`. (`AllOk` from `(delivered = [], completed = false)`.) -/
theorem completes_once (prog : List Op) (sched : List Step) :
    AllOk prog [] false (results (drive (init prog) sched)) :=
  drive_ok prog sched [] false (init prog) (init_inv prog)

theorem allOk_completed {prog : List Op} {d : List Nat} {rs : List PollResult} (h : AllOk prog d true rs) :
    ∀ x ∈ rs, x = .none := by
  induction rs with
  | nil => exact fun _ h => nomatch h
  | cons y ys ih =>
    obtain ⟨hy, hys⟩ := h
    cases y with
    | none => exact List.forall_mem_cons.2 ⟨rfl, ih hys⟩
    | item | pending => cases hy
    | complete => cases hy.1

theorem allOk_complete_all_items (prog : List Op) (d : List Nat) (rs : List PollResult) (r : Nat) (rest : List PollResult)
    (h : AllOk prog d false (rs ++ .complete r :: rest)) (hn : ∀ x ∈ rs, x ≠ .none ∧ ∀ q, x ≠ .complete q) :
    d ++ itemsOf rs = yieldsOf prog ∧ r = retOf prog ∧ ∀ x ∈ rest, x = .none := by
  induction rs generalizing d with
  | nil =>
    obtain ⟨⟨_, hd, hr⟩, hrest⟩ := h
    exact ⟨by simpa using hd, hr, allOk_completed hrest⟩
  | cons y ys ih =>
    have hy := hn y List.mem_cons_self
    have hn' := fun z hz => hn z (List.mem_cons_of_mem _ hz)
    cases y with
    | item x => exact (after_append d false (.item x) ys).1 ▸ ih _ h.2 hn'
    | pending => exact ih _ h.2 hn'
    | complete q => exact absurd rfl (hy.2 q)
    | none => exact absurd rfl hy.1

/-- **backpressure.** While an item the task has emitted has not been taken by the consumer, polling
the task changes nothing: the code after an emission cannot run before the consumer has taken the
item. (And it is the pop in `poll_next` that un-parks the sender, so it runs in a strictly later
poll than the one that returned the item.) -/
theorem no_progress_while_untaken {prog : List Op} {d : List Nat} {c : Bool} {s : St} (h : GInv prog d c s)
    (hq : s.queue ≠ []) : pollTask s = s := by
  have hp : s.parked = true := by rw [h.parked_iff]; simpa using hq
  obtain ⟨xs, ops, ht⟩ := h.parked_sending hp
  simp [pollTask, ht, hp]

theorem queue_at_most_one (prog : List Op) (sched : List Step) : (finalState (init prog) sched).queue.length ≤ 1 :=
  (drive_inv sched (init_inv prog)).2.queue_le

/-- Where a task can be after it has been polled. -/
def Settled (s : St) : Prop :=
  match s.task with
  | .run _ => False
  | .sending _ _ => s.parked = true
  | .afterWake _ => s.woken = true
  | .waiting k _ => s.fired.contains k = false ∧ s.extRegistered = some k
  | .done => True

theorem closeSender_keeps (s : St) : (closeSender s).fired = s.fired ∧ (closeSender s).extRegistered = s.extRegistered := by
  simp

theorem runOps_settled (ops : List Op) (s : St) : Settled (runOps ops s) := by
  fun_induction runOps ops s with
  | case1 | case2 => rw [finish, closeSender_eq]; trivial             -- the task ends
  | case3 | case5 | case7 | case10 | case12 => assumption             -- `dropHandle`, skipped: the rest of the program
  | case4 | case9 | case14 => rfl                                     -- `selfWake` sets `woken`, a push parks the sender
  | case6 k ops s hk => exact ⟨by simpa using hk, rfl⟩                -- `extWait` for an event that has not fired
  | case8 | case11 | case13 => assumption                             -- the sender is parked already

theorem pollTask_is_settled (s : St) : Settled (pollTask s) := by
  fun_cases pollTask s with
  | case2 | case3 | case4 | case7 => exact runOps_settled _ _         -- the task runs
  | case8 => rfl                                                      -- the next item of a `yield_all` is pushed
  | _ => simp_all [Settled]                                           -- it cannot move: finished, event not fired, parked

theorem Settled.blocked {prog : List Op} {d : List Nat} {c : Bool} {s : St} (hs : Settled s) (h : GInv prog d c s)
    (hq : s.queue = []) (hnd : s.task ≠ .done) (hw : s.woken = false) :
    ∃ k ops, s.task = .waiting k ops ∧ s.fired.contains k = false ∧ s.extRegistered = some k := by
  unfold Settled at hs
  cases ht : s.task with
  | run ops => simp [ht] at hs
  | sending xs ops => simp [ht] at hs; simpa [hs, hq] using h.parked_iff
  | afterWake ops => simp [ht, hw] at hs
  | waiting k ops => exact ⟨k, ops, rfl, by simpa [ht] using hs⟩
  | done => exact absurd ht hnd

/-- **no_lost_wakeup.** Whenever `poll_next` returns Pending without the root waker having been woken
during that poll, the task is waiting for an external event that has not fired, and its waker is
registered with that event — so the event's firing wakes it (`fire_wakes`). In every other Pending
state the waker has already been woken. Hence an executor that polls only when woken cannot miss a
wake-up, under any schedule. -/
theorem unwoken_pending_is_external_wait {prog : List Op} {d : List Nat} {c : Bool} {s : St} (h : GInv prog d c s)
    (hp : (pollNext s).1 = .pending) (hw : (pollNext s).2.woken = false) :
    ∃ k ops, (pollNext s).2.task = .waiting k ops ∧ (pollNext s).2.fired.contains k = false ∧
      (pollNext s).2.extRegistered = some k := by
  have h2 : GInv prog d c (pollTask { s with woken := false }) := pollTask_inv { h with }
  have hs := pollTask_is_settled { s with woken := false }
  rw [pollNext_eq] at hp hw ⊢
  generalize pollTask { s with woken := false } = s2 at *
  have hr := recv_case (taskDone s2) s2
  generalize recv (taskDone s2) s2 = p at hr hp hw
  -- the receiver's half leaves task, fired events and registration alone, and can only set `woken`
  cases hr with
  | item | complete | over => cases hp
  | wait _ hq ha => exact hs.blocked h2 hq (fun hd => by simp [(h2.done_closed hd).1] at ha) hw
  | busy hcl htd => exact hs.blocked h2 (h2.closed hcl).2 (by simpa [taskDone] using htd) hw

theorem fire_wakes (k : Nat) (s : St) (h : s.extRegistered = some k) : (fire k { s with woken := false }).woken = true := by
  simp [fire, h]

theorem recv_pending_idem {td : Bool} {s : St} (hp : (recv td s).1 = .pending) : recv td (recv td s).2 = recv td s := by
  have hr := recv_case td s
  generalize recv td s = p at hr hp
  cases hr with
  | item | complete | over => cases hp
  | wait hrt hq ha => simp [recv, hrt, hq, ha]
  | busy hcl htd => simp [recv, htd]

theorem pollTask_blocked {s : St} {k : Nat} {ops : List Op} (ht : s.task = .waiting k ops)
    (hf : s.fired.contains k = false) (he : s.extRegistered = some k) : pollTask s = s := by
  cases s; simp_all [pollTask]

theorem spurious_poll_noop {prog : List Op} {d : List Nat} {c : Bool} {s : St} (h : GInv prog d c s)
    (hp : (pollNext s).1 = .pending) (hw : (pollNext s).2.woken = false) : pollNext (pollNext s).2 = pollNext s := by
  obtain ⟨k, ops, ht, hf, he⟩ := unwoken_pending_is_external_wait h hp hw
  have e : pollTask { (pollNext s).2 with woken := false } = (pollNext s).2 := by
    rw [← hw, pollTask_blocked ht hf he]
  rw [pollNext_eq (pollNext s).2, e]
  rw [pollNext_eq] at hp ⊢
  unfold taskDone
  rw [recv_task]
  exact recv_pending_idem hp

theorem spurious_poll_pending {prog : List Op} {d : List Nat} {c : Bool} {s : St} (h : GInv prog d c s)
    (hp : (pollNext s).1 = .pending) (hw : (pollNext s).2.woken = false) :
    (pollNext (pollNext s).2).1 = .pending ∧ (pollNext (pollNext s).2).2.woken = false := by
  rw [spurious_poll_noop h hp hw]
  exact ⟨hp, hw⟩

/-! ### Non-vacuity: the run of Appendix E of DESIGN.md -/

example : results (drive (init [.yield 1, .yieldAll [2, 3], .selfWake, .extWait 0, .yield 4, .dropHandle, .selfWake, .ret 9])
      [.poll, .poll, .poll, .poll, .poll, .fire 0, .poll, .poll, .poll, .poll]) =
    [.item 1, .item 2, .item 3, .pending, .pending, .item 4, .pending, .complete 9, .none] := by decide +kernel

example : yieldsOf [.yield 1, .yieldAll [2, 3], .selfWake, .extWait 0, .yield 4, .dropHandle, .selfWake, .ret 9] = [1, 2, 3, 4] := by
  decide

end Omaha.Gen

namespace Omaha.SM

/-- **progress_before_outcome.** The install call is followed by every progress value the installer
reported, in order, as InstallProgress events — before the state machine acts on the install's
outcome (duration metric, result reports, installer-error events, InstallationError, the check's
result all come later in `installPhase`). -/
theorem runInstall_trace (planId : Nat) (w : World) :
    (runInstall planId w).trace =
      (w.env.progress.map fun k => Action.event (.progress k)).reverse ++
        .install planId w.env.progress w.env.results :: w.trace := by
  have key : ∀ (ps : List Nat) (x : World),
      (ps.foldl (fun w k => yieldEv (.progress k) w) x).trace = (ps.map fun k => Action.event (.progress k)).reverse ++ x.trace := by
    intro ps
    induction ps with
    | nil => exact fun _ => rfl
    | cons p rest ih => exact fun x => by rw [List.foldl_cons, ih]; simp [yieldEv, emit]
  exact key _ _

end Omaha.SM
