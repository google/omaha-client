/-
Lemmas about the storage model: association lists, commit,
batches of storage operations (`storeOps`: what `persistCtx`, `persistApps` and `persistData` are),
and what a batch leaves in the store when the environment injects no storage failure.
-/
import Omaha.Lemmas.SMTrace

namespace Omaha.SM

open Omaha

theorem lookup_eraseAssoc {β} (k k' : Bytes) (l : List (Bytes × β)) :
    lookup k' (eraseAssoc k l) = if k = k' then none else lookup k' l := by
  unfold eraseAssoc
  induction l with
  | nil => exact (ite_self none).symm
  | cons kv rest ih =>
    obtain ⟨k0, v0⟩ := kv
    rw [List.filter_cons, lookup]
    by_cases h0 : k0 = k
    · subst h0
      rw [if_neg (by simp), ih]
      by_cases hk : k0 = k' <;> simp [hk]
    · rw [if_pos (by simpa using h0), lookup, ih]
      by_cases hk : k = k'
      · subst hk; simp [h0]
      · simp [hk]

theorem lookup_setAssoc {β} (k k' : Bytes) (v : β) (l : List (Bytes × β)) :
    lookup k' (setAssoc k v l) = if k = k' then some v else lookup k' l := by
  unfold setAssoc
  simp only [lookup, lookup_eraseAssoc]
  by_cases hk : k = k' <;> simp [hk]

theorem lookup_applyPending (k : Bytes) (c : List (Bytes × SVal)) (p : List (Bytes × Option SVal)) :
    lookup k (applyPending c p) = (match lookup k p with
      | some v => v
      | none => lookup k c) := by
  induction p with
  | nil => rfl
  | cons kv older ih =>
    obtain ⟨k0, v0⟩ := kv
    unfold applyPending
    cases v0 with
    | some x =>
      simp only [lookup_setAssoc, lookup]
      by_cases h : k0 = k <;> simp [h, ih]
    | none =>
      simp only [lookup_eraseAssoc, lookup]
      by_cases h : k0 = k <;> simp [h, ih]

theorem committed_commit (s : Store) (k : Bytes) : lookup k s.commit.committed = s.get k := by
  unfold Store.commit Store.get
  simp only
  rw [lookup_applyPending]
  cases lookup k s.pending <;> rfl

/-- **commit is transparent to readers.** -/
theorem commit_get (s : Store) (k : Bytes) : (s.commit).get k = s.get k := committed_commit s k

theorem crash_get (s : Store) (k : Bytes) : (s.crash).get k = lookup k s.committed := rfl

/-- After a commit, a crash loses nothing. -/
theorem crash_commit_get (s : Store) (k : Bytes) : (s.commit.crash).get k = s.get k := committed_commit s k

theorem get_push (s : Store) (k k' : Bytes) (v : Option SVal) :
    ({ s with pending := (k, v) :: s.pending } : Store).get k' = if k = k' then v else s.get k' := by
  unfold Store.get
  simp only [lookup]
  by_cases h : k = k' <;> simp [h]

theorem get_after_set (s : Store) (k k' : Bytes) (v : SVal) :
    ({ s with pending := (k, some v) :: s.pending } : Store).get k' = if k = k' then some v else s.get k' :=
  get_push s k k' (some v)

theorem get_after_remove (s : Store) (k k' : Bytes) :
    ({ s with pending := (k, none) :: s.pending } : Store).get k' = if k = k' then none else s.get k' :=
  get_push s k k' none

theorem applyOp_get (op : StoreOp) (s : Store) (k' : Bytes) :
    (applyOp op s).get k' = (match op with
      | .set k v => if k = k' then some v else s.get k'
      | .remove k => if k = k' then none else s.get k'
      | .commit => s.get k') :=
  match op with
  | .set k v => get_after_set s k k' v
  | .remove k => get_after_remove s k k'
  | .commit => commit_get s k'

/-- `set_option_int` then `get_int`. -/
theorem optOp_getInt (k k' : Bytes) (v : Option Int) (s : Store) :
    (applyOp (optOp k v) s).getInt k' = if k = k' then v else s.getInt k' := by
  cases v <;> by_cases h : k = k' <;> simp [Store.getInt, optOp, applyOp_get, h]

def runOps (ops : List StoreOp) (s : Store) : Store := ops.foldl (fun s o => applyOp o s) s

theorem runOps_append (a b : List StoreOp) (s : Store) : runOps (a ++ b) s = runOps b (runOps a s) :=
  List.foldl_append

/-- `Context::load` reads the store only through `get`. -/
theorem loadCtx_of_get_eq (s1 s2 : Store) (h : ∀ k, s1.get k = s2.get k) : loadCtx s1 = loadCtx s2 := by
  unfold loadCtx Store.getTime Store.getInt
  simp only [h]

/-- No storage failure is scripted.  The script must be empty: one of `false`s only, on which every operation
succeeds as well, is not covered. -/
def NoStoreFail (w : World) : Prop := w.env.storeFail = []

theorem storeOp_ok (op : StoreOp) (w : World) (h : NoStoreFail w) :
    (storeOp op w).1 = true ∧ NoStoreFail (storeOp op w).2 ∧
    (storeOp op w).2.store = applyOp op w.store := by
  unfold NoStoreFail at h ⊢
  rw [storeOp_eq, h]
  exact ⟨rfl, rfl, rfl⟩

def storeOps (ops : List StoreOp) (w : World) : World := ops.foldl (fun w op => storeOp_ op w) w

theorem storeOps_append (ops ops' : List StoreOp) (w : World) :
    storeOps (ops ++ ops') w = storeOps ops' (storeOps ops w) := List.foldl_append

theorem storeOps_log (ops : List StoreOp) (w : World) :
    ∃ d, (storeOps ops w).trace = d ++ w.trace ∧ d.length = ops.length ∧ ∀ a ∈ d, isStorage a := by
  induction ops generalizing w with
  | nil => exact ⟨[], rfl, rfl, by simp⟩
  | cons op rest ih =>
    obtain ⟨d, e, hl, hs⟩ := ih (storeOp_ op w)
    refine ⟨d ++ [.storage op (storeOp op w).1], ?_, by simp [hl], ?_⟩
    · rw [List.append_assoc, List.singleton_append, ← storeOp_trace]; exact e
    · intro a ha
      rcases List.mem_append.1 ha with h | h
      · exact hs a h
      · rw [List.mem_singleton.1 h]; trivial

theorem storeOps_ok (ops : List StoreOp) (w : World) (h : NoStoreFail w) :
    NoStoreFail (storeOps ops w) ∧ (storeOps ops w).store = runOps ops w.store := by
  induction ops generalizing w with
  | nil => exact ⟨h, rfl⟩
  | cons op rest ih =>
    obtain ⟨_, h1, e1⟩ := storeOp_ok op w h
    have := ih (storeOp_ op w) h1
    rwa [storeOp_, e1] at this

/-- What `Context::persist` writes. -/
def ctxOps (c : Ctx) : List StoreOp :=
  [optOp kLastUpdateTime ((c.sched.lastUpdate.bind pctWall).bind Time.toMicros),
   optOp kPoll (c.st.poll.map fun ns => ((ns / 1000 : Nat) : Int)),
   optOp kFailedChecks (if c.st.failures = 0 then none else some (c.st.failures : Int))]

def appWrite (a : App) : StoreOp := .set a.id (.str (persistedAppJson a))

theorem persistCtx_eq (w : World) : persistCtx w = storeOps (ctxOps w.ctx) w := by
  unfold persistCtx
  simp only [setOptionInt_eq, ← (inv_storeOp _ _).ctx]
  rfl

theorem persistApps_eq (apps : List App) (w : World) : persistApps apps w = storeOps (apps.map appWrite) w := by
  induction apps generalizing w with
  | nil => rfl
  | cons a rest ih => exact ih _

theorem persistData_eq (w : World) :
    persistData w = storeOps (ctxOps w.ctx ++ w.apps.map appWrite ++ [.commit]) w := by
  unfold persistData
  rw [persistCtx_eq, persistApps_eq, storeOps_append, storeOps_append]
  rfl

end Omaha.SM
