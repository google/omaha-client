/-
C08, the order of the writes inside one storage transaction is immaterial: two operation sequences
that differ by swapping adjacent writes (set / remove) to *different* keys lead to stores that no
reader can tell apart — now, after any further operations, after the commit, and after a crash.

This is what entitles the correspondence check to compare the implementation's and the model's
storage traces modulo the order of the writes between two commits (`check`: `canon_tx_order`, a
stable sort by key of every maximal run of consecutive writes — reachable by exactly these swaps):
a rewrite of the code that reorders independent writes of one transaction is not reported, while a
write moved across a commit, dropped, added or changed still is.
-/
import Omaha.Lemmas.Store

namespace Omaha.SM

open Omaha

theorem committed_only_by_commit (op : StoreOp) (s : Store) (h : op ≠ .commit) :
    (applyOp op s).committed = s.committed := by
  cases op with
  | set k v => rfl
  | remove k => rfl
  | commit => exact absurd rfl h

def Store.Eqv (s t : Store) : Prop := ∀ k, s.get k = t.get k ∧ lookup k s.committed = lookup k t.committed

theorem Store.Eqv.refl (s : Store) : s.Eqv s := fun _ => ⟨rfl, rfl⟩
theorem Store.Eqv.symm {s t : Store} (h : s.Eqv t) : t.Eqv s := fun k => ⟨(h k).1.symm, (h k).2.symm⟩
theorem Store.Eqv.trans {s t u : Store} (h : s.Eqv t) (g : t.Eqv u) : s.Eqv u :=
  fun k => ⟨(h k).1.trans (g k).1, (h k).2.trans (g k).2⟩

theorem eqv_applyOp (op : StoreOp) {s t : Store} (h : s.Eqv t) : (applyOp op s).Eqv (applyOp op t) := by
  intro k
  constructor
  · rw [applyOp_get, applyOp_get, (h k).1]
  · cases op with
    | set k' v => exact (h k).2
    | remove k' => exact (h k).2
    | commit => exact (committed_commit s k).trans ((h k).1.trans (committed_commit t k).symm)

theorem eqv_runOps (ops : List StoreOp) {s t : Store} (h : s.Eqv t) : (runOps ops s).Eqv (runOps ops t) := by
  induction ops generalizing s t with
  | nil => exact h
  | cons o rest ih => exact ih (eqv_applyOp o h)

theorem eqv_crash {s t : Store} (h : s.Eqv t) : s.crash.Eqv t.crash :=
  fun k => ⟨(h k).2, (h k).2⟩

def writeKey : StoreOp → Option Bytes
  | .set k _ => some k
  | .remove k => some k
  | .commit => none

theorem applyOp_write {a : StoreOp} {ka : Bytes} (h : writeKey a = some ka) :
    ∃ va, ∀ s, applyOp a s = { s with pending := (ka, va) :: s.pending } := by
  cases a <;> cases h <;> exact ⟨_, fun _ => rfl⟩

theorem writes_commute (a b : StoreOp) (ka kb : Bytes) (ha : writeKey a = some ka) (hb : writeKey b = some kb)
    (hne : ka ≠ kb) (s : Store) : (applyOp b (applyOp a s)).Eqv (applyOp a (applyOp b s)) := by
  obtain ⟨va, ea⟩ := applyOp_write ha
  obtain ⟨vb, eb⟩ := applyOp_write hb
  intro k
  simp only [ea, eb, Store.get, lookup, and_true]
  -- a reader of `ka` finds `a`'s entry whichever write is on top; any other reader skips it
  by_cases h1 : ka = k
  · rw [if_pos h1, if_neg fun h2 => hne (h1.trans h2.symm), if_pos h1]
  · rw [if_neg h1, if_neg h1]

inductive TxPerm : List StoreOp → List StoreOp → Prop
  | refl (l : List StoreOp) : TxPerm l l
  | swap (pre post : List StoreOp) (a b : StoreOp) (ka kb : Bytes) (ha : writeKey a = some ka) (hb : writeKey b = some kb)
      (hne : ka ≠ kb) : TxPerm (pre ++ a :: b :: post) (pre ++ b :: a :: post)
  | trans {l₁ l₂ l₃ : List StoreOp} : TxPerm l₁ l₂ → TxPerm l₂ l₃ → TxPerm l₁ l₃

theorem txPerm_eqv {l l' : List StoreOp} (h : TxPerm l l') (s : Store) : (runOps l s).Eqv (runOps l' s) := by
  induction h with
  | refl l => exact Store.Eqv.refl _
  | swap pre post a b ka kb ha hb hne =>
    rw [runOps_append, runOps_append]
    show (runOps post (applyOp b (applyOp a (runOps pre s)))).Eqv (runOps post (applyOp a (applyOp b (runOps pre s))))
    exact eqv_runOps post (writes_commute a b ka kb ha hb hne _)
  | trans _ _ ih1 ih2 => exact ih1.trans ih2

theorem txPerm_crash {l l' : List StoreOp} (h : TxPerm l l') (s : Store) (rest : List StoreOp) (k : Bytes) :
    (runOps rest (runOps l s)).crash.get k = (runOps rest (runOps l' s)).crash.get k :=
  ((eqv_crash (eqv_runOps rest (txPerm_eqv h s))) k).1

example : TxPerm [.set [1] (.int 5), .remove [2], .commit] [.remove [2], .set [1] (.int 5), .commit] :=
  TxPerm.swap [] [.commit] (.set [1] (.int 5)) (.remove [2]) [1] [2] rfl rfl (by decide)

end Omaha.SM
