/-
C17, third clause: "driving the real state machine against the in-process mock reaches the
configured outcome".  The two models are composed: the body the mock model renders for the machine's
request (`Mock.render (responseVal vs)`) is fed to the state-machine model's path function
(`pathOf`, Props/C04), through the client's parser model (text reader included).  The announcements
and the result that go with each path are C04's theorems (`performUpdateCheck_marks`,
`performUpdateCheck_result`); forced / foreign ETags are C02's (`unauth_request`).
The stream `smmock` runs the real state machine against the real mock and has both models predict it.
-/
import Omaha.Props.JsonText
import Omaha.Props.C04

namespace Omaha.Mock

open Omaha Omaha.JsonP Omaha.Resp Omaha.SM

theorem decode_appVals_err (cfg : Cfg) (apps : List ReqApp) (vs : List Val) (h : appVals cfg apps = some vs)
    (hinv : ∃ a ∈ apps, ∃ m, lookup a.id cfg.responses = some m ∧ appDecoded m a = none) : mapR decodeApp vs = .err := by
  obtain ⟨a', ha', m, hm, hn⟩ := hinv
  revert ha'
  refine appVals_induction (P := fun apps vs => a' ∈ apps → mapR decodeApp vs = .err) (fun ha => nomatch ha) ?_ apps vs h
  intro a rest v rs hv _ ih ha'
  obtain ⟨m0, hm0, hd0⟩ := decode_appVal cfg a v hv
  rw [mapR, hd0]
  rcases List.mem_cons.1 ha' with rfl | ha'
  · rw [hm0] at hm
    cases hm
    rw [hn]
    rfl
  · rw [ih ha']
    cases appDecoded m0 a <;> rfl

/-- **configured_outcome (invalid response).** If an app the request checks for updates is
configured with the invalid kind, the state machine's parser rejects the mock's reply: the check
takes the `unparseable` path (ErrorCheckingForUpdate, a parse-error event for all apps, result
`ResponseParser`). -/
theorem configured_outcome_invalid (cfg : Cfg) (apps : List ReqApp) (vs : List Val) (h : appVals cfg apps = some vs)
    (hu : Utf8Inputs cfg apps) (env : Env)
    (hinv : ∃ a ∈ apps, ∃ m, lookup a.id cfg.responses = some m ∧ appDecoded m a = none) :
    pathOf (.ok (Mock.render (responseVal vs))) env = .unparseable := by
  -- `pathOf`'s equation at `.ok` (after `unfold pathOf` the outer `match` is left to the kernel, which reduces it by
  -- running the parser on the rendered document as far as it gets)
  rw [pathOf, mock_doc_reads_back cfg apps vs h hu, decodeWrapper_responseVal, decode_appVals_err cfg apps vs h hinv]
  rfl

theorem zip_mem_left {α β} (l : List α) (r : List β) (hl : l.length = r.length) (x : α) (h : x ∈ l) :
    ∃ y, (x, y) ∈ l.zip r := by
  rw [← List.map_fst_zip (Nat.le_of_eq hl)] at h
  obtain ⟨⟨_, y⟩, hp, rfl⟩ := List.mem_map.1 h
  exact ⟨y, hp⟩

theorem zip_mem_right {α β} (l : List α) (r : List β) (hl : l.length = r.length) (y : β) (h : y ∈ r) :
    ∃ x, (x, y) ∈ l.zip r := by
  rw [← List.map_snd_zip (Nat.le_of_eq hl.symm)] at h
  obtain ⟨⟨x, _⟩, hp, rfl⟩ := List.mem_map.1 h
  exact ⟨x, hp⟩

theorem isOffered_appDecoded (m : RespMeta) (a : ReqApp) (x : Resp.App) (h : appDecoded m a = some x) :
    isOffered x = (a.updateCheck.isSome && (m.kind == .update || m.kind == .urgentUpdate || m.kind == .invalidURL)) := by
  unfold appDecoded at h
  cases hu : a.updateCheck with
  | none => rw [hu] at h; cases h; rfl
  | some d =>
    rw [hu] at h
    obtain ⟨uc, huc, rfl⟩ := Option.map_eq_some_iff.1 h
    unfold ucDecoded at huc
    generalize m.kind = k at huc ⊢
    cases k <;> cases huc <;> rfl

theorem mock_reply_decodes (cfg : Cfg) (apps : List ReqApp) (vs : List Val) (h : appVals cfg apps = some vs)
    (hu : Utf8Inputs cfg apps)
    (hvalid : ∀ a ∈ apps, ∀ m, lookup a.id cfg.responses = some m → (appDecoded m a).isSome) :
    ∃ r : Response, parseJsonResponse (Mock.render (responseVal vs)) = .ok r ∧ r.apps.map (·.id) = apps.map (·.id) ∧
      ∀ p ∈ r.apps.zip apps, ∃ m, lookup p.2.id cfg.responses = some m ∧ appDecoded m p.2 = some p.1 := by
  obtain ⟨ras, h1, h2, h3⟩ := client_accepts_mock_doc cfg apps vs h hvalid
  exact ⟨_, (mock_doc_reads_back cfg apps vs h hu).trans h1, h2, h3⟩

/-- **configured_outcome (no update).** If every app the request checks is configured `NoUpdate`,
the check takes the `noUpdate` path: the response is announced, then NoUpdateAvailable, and the
result lists every app with NoUpdate (C04). -/
theorem configured_outcome_no_update (cfg : Cfg) (apps : List ReqApp) (vs : List Val) (h : appVals cfg apps = some vs)
    (hu : Utf8Inputs cfg apps) (env : Env)
    (hkind : ∀ a ∈ apps, ∀ m, lookup a.id cfg.responses = some m → a.updateCheck.isSome = true → m.kind = .noUpdate) :
    ∃ r, pathOf (.ok (Mock.render (responseVal vs))) env = .noUpdate r ∧ r.apps.map (·.id) = apps.map (·.id) := by
  have hvalid : ∀ a ∈ apps, ∀ m, lookup a.id cfg.responses = some m → (appDecoded m a).isSome := by
    intro a ha m hm
    unfold appDecoded
    cases hu' : a.updateCheck with
    | none => rfl
    | some d => simp [ucDecoded, hkind a ha m hm (by rw [hu']; rfl)]
  obtain ⟨r, hp, hids, hz⟩ := mock_reply_decodes cfg apps vs h hu hvalid
  refine ⟨r, ?_, hids⟩
  have hnone : offeredApps r = [] := by
    refine List.filter_eq_nil_iff.2 fun x hx => ?_
    obtain ⟨a, hxa⟩ := zip_mem_left r.apps apps (by simpa using congrArg List.length hids) x hx
    obtain ⟨m, hm, hd⟩ := hz (x, a) hxa
    rw [isOffered_appDecoded m a x hd]
    cases hs : a.updateCheck.isSome with
    | false => exact Bool.false_ne_true
    | true => rw [hkind a (List.of_mem_zip hxa).2 m hm hs]; exact Bool.false_ne_true
  rw [pathOf, hp]
  simp only [hnone, List.isEmpty_nil, if_true]

/-- **configured_outcome (update / urgent update / invalid URL).** If no requested app is
configured invalid and some app the request checks is configured with an update kind, the response
offers an update: the check goes on to the install plan — and from there by the embedder's answers
(plan, policy decision, installer results) exactly as `pathOf` says. -/
theorem configured_outcome_update (cfg : Cfg) (apps : List ReqApp) (vs : List Val) (h : appVals cfg apps = some vs)
    (hu : Utf8Inputs cfg apps) (env : Env)
    (hvalid : ∀ a ∈ apps, ∀ m, lookup a.id cfg.responses = some m → (appDecoded m a).isSome)
    (hupd : ∃ a ∈ apps, a.updateCheck.isSome = true ∧ ∃ m, lookup a.id cfg.responses = some m ∧
      (m.kind = .update ∨ m.kind = .urgentUpdate ∨ m.kind = .invalidURL)) :
    ∃ r, (offeredApps r).isEmpty = false ∧
      pathOf (.ok (Mock.render (responseVal vs))) env =
        (match env.plan with
         | none => .planFailed r
         | some planId =>
           match env.canStart with
           | .deferred => .deferred r
           | .denied => .denied r
           | .ok => .installed r planId env.results) := by
  obtain ⟨r, hp, hids, hz⟩ := mock_reply_decodes cfg apps vs h hu hvalid
  obtain ⟨a, ha, hau, m, hm, hk⟩ := hupd
  obtain ⟨x, hxa⟩ := zip_mem_right r.apps apps (by simpa using congrArg List.length hids) a ha
  obtain ⟨m', hm', hd⟩ := hz (x, a) hxa
  cases hm.symm.trans hm'
  have hoff : isOffered x = true := by
    rw [isOffered_appDecoded m a x hd, hau]
    rcases hk with hk | hk | hk <;> rw [hk] <;> rfl
  have hne : (offeredApps r).isEmpty = false :=
    List.isEmpty_eq_false_iff_exists_mem.2 ⟨x, List.mem_filter.2 ⟨(List.of_mem_zip hxa).1, hoff⟩⟩
  refine ⟨r, hne, ?_⟩
  rw [pathOf, hp]
  simp only [hne, Bool.false_eq_true, if_false]
  rfl

end Omaha.Mock
