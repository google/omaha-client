/-
The model's larger functions in the form the proofs use them — the attempt loop one attempt at a
time (`attemptOnce`, `attemptLoop_succ`), a check as request phase then response phase
(`requestPhase`, `performUpdateCheck_eq`), the two kinds of event report as one (`report`), a history
one iteration at a time (`runUnits_cons`) — and what the requests of an update check are built from:
the builders of the three kinds of request a check sends and the invariant they share (`Canon`: the
check's parameters, its session, and update-check flags equal to the parameters' flags wherever
present).
-/
import Omaha.SM.Run
import Omaha.Lemmas.Request

namespace Omaha.SM

open Omaha

/-- The session id `performUpdateCheck params apps w` draws: its first two steps come before the draw. -/
def sessionOf (params : RequestParams) (w : World) : Nat :=
  (nextGuid (reportCheckInterval params.source (yieldEv (.state (.checking params.source)) w))).1

/-- One attempt of the loop.  The request is written out at each use and not bound by a `let`: the proofs
unfold this and rewrite or generalize the request's result and world where they stand. -/
def attemptOnce (b : Request.Builder) (w : World) : Except ReqFail Bytes × World :=
  ((omahaRequest .updateCheck (withRequestId b w).1 (withRequestId b w).2).1,
   if w.clock.mono ≤ (omahaRequest .updateCheck (withRequestId b w).1 (withRequestId b w).2).2.clock.mono then
     metric (.responseTime ((omahaRequest .updateCheck (withRequestId b w).1 (withRequestId b w).2).2.clock.mono - w.clock.mono).toNat
       (isOk (omahaRequest .updateCheck (withRequestId b w).1 (withRequestId b w).2).1))
       (omahaRequest .updateCheck (withRequestId b w).1 (withRequestId b w).2).2
   else (omahaRequest .updateCheck (withRequestId b w).1 (withRequestId b w).2).2)

theorem attemptLoop_succ (fuel attempt : Nat) (b : Request.Builder) (w : World) :
    attemptLoop (fuel + 1) attempt b w =
      match (attemptOnce b w).1 with
      | .ok body => (.ok body, attempt, (attemptOnce b w).2)
      | .error f =>
        if giveUp f attempt (attemptOnce b w).2.ctx.st.poll then
          (.error f, attempt, yieldEv (.state .errorChecking) (attemptOnce b w).2)
        else attemptLoop fuel (attempt + 1) (withRequestId b w).1 (backoff attempt (attemptOnce b w).2) := by
  rw [attemptLoop, attemptOnce]
  simp only
  generalize omahaRequest .updateCheck (withRequestId b w).1 (withRequestId b w).2 = r
  obtain ⟨res, w1⟩ := r
  cases res <;> rfl

def requestPhase (params : RequestParams) (apps : List App) (w : World) : Except ReqFail Bytes × Nat × World :=
  let w := yieldEv (.state (.checking params.source)) w
  let w := reportCheckInterval params.source w
  let (session, w) := nextGuid w
  attemptLoop 3 1 (checkBuilder params apps session) w

theorem performUpdateCheck_eq (params : RequestParams) (apps : List App) (w : World) :
    performUpdateCheck params apps w =
      match (requestPhase params apps w).1 with
      | .error f => (some (.error (.omahaRequest f.err)),
          metric (.requestsPerCheck (requestPhase params apps w).2.1 false) (requestPhase params apps w).2.2)
      | .ok body => responsePhase params apps (sessionOf params w) body
          (metric (.requestsPerCheck (requestPhase params apps w).2.1 true) (requestPhase params apps w).2.2) := by
  unfold performUpdateCheck requestPhase sessionOf
  simp only
  generalize attemptLoop 3 1 _ _ = r
  obtain ⟨res, attempts, w2⟩ := r
  cases res <;> rfl

def eventBuilder (params : RequestParams) (ev : Omaha.Event) (apps : List App) (session : Nat)
    (nv : List (Bytes × Option Bytes)) (ns : Option Nat) : Request.Builder :=
  { (apps.foldl (fun b app =>
      match lookup app.id nv with
      | some next =>
        b.apply (.event app { ev with previousVersion := some (Version.print app.version), nextVersion := next,
                                      downloadTimeMs := ns.bind durationMs })
      | none => b) ({ params := params } : Request.Builder)) with sessionId := some (guidBytes session) }

def resultsBuilder (params : RequestParams) (evs : List (App × Omaha.Event)) (session : Nat) : Request.Builder :=
  { (evs.foldl (fun b (x : App × Omaha.Event) => b.apply (.event x.1 x.2)) ({ params := params } : Request.Builder)) with
    sessionId := some (guidBytes session) }

def pingBuilder (apps : List App) (session : Nat) : Request.Builder :=
  { (apps.foldl (fun b app => b.apply (.ping app))
      ({ params := { source := .scheduledTask, useConfiguredProxies := true } } : Request.Builder)) with
    sessionId := some (guidBytes session) }

def GoodEntry (params : RequestParams) (e : Request.AppEntry) : Prop :=
  e.updateCheck = none ∨ e.updateCheck = some (params.disableUpdates, params.offerUpdateIfSameVersion)

def Canon (params : RequestParams) (session : Nat) (b : Request.Builder) : Prop :=
  b.params = params ∧ b.sessionId = some (guidBytes session) ∧ ∀ e ∈ b.entries, GoodEntry params e

theorem insertAndModify_good (params : RequestParams) (entries : List Request.AppEntry) (app : App)
    (f : Request.AppEntry → Request.AppEntry) (he : ∀ e ∈ entries, GoodEntry params e)
    (hf : ∀ e, GoodEntry params e → GoodEntry params (f e)) :
    ∀ e ∈ Request.insertAndModify entries app f, GoodEntry params e :=
  forall_mem_insertAndModify entries app f he fun e h => hf e (h.elim (he e) fun h => h ▸ .inl rfl)

theorem good_pushEvent (params : RequestParams) (ev : Omaha.Event) (e : Request.AppEntry) (h : GoodEntry params e) :
    GoodEntry params (Request.pushEvent ev e) := h

theorem good_setPing (params : RequestParams) (e : Request.AppEntry) (h : GoodEntry params e) :
    GoodEntry params (Request.setPing e) := h

theorem good_setUc (params : RequestParams) (e : Request.AppEntry) :
    GoodEntry params (Request.setUc (params.disableUpdates, params.offerUpdateIfSameVersion) e) := Or.inr rfl

/-- The entries-and-params part of `Canon` (the session id is set last). -/
def PreCanon (params : RequestParams) (b : Request.Builder) : Prop :=
  b.params = params ∧ ∀ e ∈ b.entries, GoodEntry params e

theorem preCanon_apply (params : RequestParams) (b : Request.Builder) (op : Request.Op) (h : PreCanon params b) :
    PreCanon params (b.apply op) := by
  obtain ⟨hp, he⟩ := h
  cases op with
  | updateCheck app =>
    refine ⟨hp, ?_⟩
    simp only [Request.Builder.apply]
    rw [hp]
    exact insertAndModify_good params _ _ _ he (fun e _ => good_setUc params e)
  | ping app => exact ⟨hp, insertAndModify_good params _ _ _ he (good_setPing params)⟩
  | event app ev => exact ⟨hp, insertAndModify_good params _ _ _ he (good_pushEvent params ev)⟩
  | requestId g => exact ⟨hp, he⟩
  | sessionId g => exact ⟨hp, he⟩

theorem preCanon_base (params : RequestParams) : PreCanon params { params := params } :=
  ⟨rfl, fun _ h => by simp at h⟩

theorem canon_of_pre (params : RequestParams) (session : Nat) (b : Request.Builder) (h : PreCanon params b) :
    Canon params session { b with sessionId := some (guidBytes session) } := ⟨h.1, rfl, h.2⟩

theorem preCanon_foldl {α : Type} (params : RequestParams) (step : Request.Builder → α → Request.Builder)
    (hstep : ∀ b a, PreCanon params b → PreCanon params (step b a)) (l : List α) (b : Request.Builder)
    (h : PreCanon params b) : PreCanon params (l.foldl step b) := by
  induction l generalizing b with
  | nil => exact h
  | cons a rest ih => exact ih _ (hstep b a h)

theorem canon_checkBuilder (params : RequestParams) (apps : List App) (session : Nat) :
    Canon params session (checkBuilder params apps session) :=
  canon_of_pre params session _ (preCanon_foldl params _
    (fun _ _ h => preCanon_apply _ _ _ (preCanon_apply _ _ _ h)) apps _ (preCanon_base params))

theorem canon_eventBuilder (params : RequestParams) (ev : Omaha.Event) (apps : List App) (session : Nat)
    (nv : List (Bytes × Option Bytes)) (ns : Option Nat) :
    Canon params session (eventBuilder params ev apps session nv ns) :=
  canon_of_pre params session _ (preCanon_foldl params _
    (fun _ _ h => by
      split
      · exact preCanon_apply _ _ _ h
      · exact h) apps _ (preCanon_base params))

theorem canon_resultsBuilder (params : RequestParams) (evs : List (App × Omaha.Event)) (session : Nat) :
    Canon params session (resultsBuilder params evs session) :=
  canon_of_pre params session _ (preCanon_foldl params _ (fun _ _ h => preCanon_apply _ _ _ h) evs _ (preCanon_base params))

def report (b : Request.Builder) (lost : List Omaha.Event) (w : World) : World :=
  match (omahaRequest .eventReport (withRequestId b w).1 (withRequestId b w).2).1 with
  | .ok _ => (omahaRequest .eventReport (withRequestId b w).1 (withRequestId b w).2).2
  | .error _ =>
    lost.foldl (fun w e => metric (.eventLost e) w) (omahaRequest .eventReport (withRequestId b w).1 (withRequestId b w).2).2

theorem reportEvent_eq (params : RequestParams) (ev : Omaha.Event) (apps : List App) (session : Nat)
    (nv : List (Bytes × Option Bytes)) (ns : Option Nat) (w : World) :
    reportEvent params ev apps session nv ns w = report (eventBuilder params ev apps session nv ns) [ev] w := by
  unfold reportEvent report eventBuilder
  rfl

theorem reportResults_eq (params : RequestParams) (evs : List (App × Omaha.Event)) (session : Nat) (w : World) :
    reportResults params evs session w = report (resultsBuilder params evs session) (evs.map (·.2)) w := by
  unfold report
  rw [List.foldl_map]
  rfl

theorem foldl_entries (params : RequestParams) (step : Request.Builder → App → Request.Builder)
    (new : App → Option Request.AppEntry)
    (hstep : ∀ b a, b.params = params → (∀ e ∈ b.entries, e.app.id ≠ a.id) →
      (step b a).params = params ∧ (step b a).entries = b.entries ++ (new a).toList)
    (hid : ∀ a e, new a = some e → e.app.id = a.id)
    (apps : List App) (b : Request.Builder) (hp : b.params = params) (hnd : (apps.map (·.id)).Nodup)
    (hdis : ∀ e ∈ b.entries, ∀ a ∈ apps, e.app.id ≠ a.id) :
    (apps.foldl step b).entries = b.entries ++ apps.filterMap new := by
  induction apps generalizing b with
  | nil => simp
  | cons a rest ih =>
    obtain ⟨hnotin, hnd'⟩ := List.nodup_cons.1 hnd
    obtain ⟨hp', hs⟩ := hstep b a hp (fun e he => hdis e he a List.mem_cons_self)
    rw [List.foldl_cons, ih _ hp' hnd', hs, List.append_assoc]
    · cases h : new a <;> simp [h]
    · intro e he x hx
      rcases List.mem_append.1 (hs ▸ he) with he | he
      · exact hdis e he x (List.mem_cons_of_mem _ hx)
      · exact fun h => hnotin (List.mem_map.2 ⟨x, hx, h.symm.trans (hid a e (Option.mem_toList.1 he))⟩)

theorem runUnits_cons (u : UnitEnv) (rest : List UnitEnv) (rs : RunState) (w : World) :
    runUnits (u :: rest) rs w =
      if (runUnit u rs w).1 = .completed then runUnits rest (runUnit u rs w).2.1 (runUnit u rs w).2.2
      else runUnit u rs w := by
  rw [runUnits]
  generalize runUnit u rs w = r
  obtain ⟨a, b, x⟩ := r
  cases a <;> rfl

end Omaha.SM
