/-
C06 — Retries are bounded, only for transient failures, and backed off.

The counting clauses (at most three attempts, reports sent once, metrics account for the attempts) all
count actions of some kind in the trace (`countA p`); they rest on one statement of what a request
logs (`omahaRequest_counts`) and one of what an attempt of the loop logs (`attemptOnce_counts`).
What is exact about the loop — the attempt number it returns, the attempts it accounts for, and in
Props/C04 its announcement — is read off `Attempts`: the loop as it runs when it has fuel for every
attempt it can make, which is how `perform_update_check` calls it.
-/
import Omaha.Lemmas.SMChain

namespace Omaha.SM

open Omaha

def countA (p : Action → Bool) (w : World) : Nat := (w.trace.filter p).length

def isUC : Action → Bool
  | .http r _ => r.kind == .updateCheck
  | _ => false

def ucCount (w : World) : Nat := (w.trace.filter isUC).length

def isHttpB : Action → Bool
  | .http _ _ => true
  | _ => false

def httpCount (w : World) : Nat := (w.trace.filter isHttpB).length

/-- An attempt of an update check: the request went on the wire, or could not be built. -/
def isAttempt : Action → Bool
  | .http r _ => r.kind == .updateCheck
  | .buildError k _ => k == .updateCheck
  | _ => false

def isRT : Action → Bool
  | .metric (.responseTime _ _) => true
  | _ => false

theorem ucCount_eq (w : World) : ucCount w = countA isUC w := rfl
theorem httpCount_eq (w : World) : httpCount w = countA isHttpB w := rfl

theorem countA_cons (p : Action → Bool) {a : Action} {w w' : World} (h : w'.trace = a :: w.trace) :
    countA p w' = countA p w + (p a).toNat := by
  unfold countA
  rw [h, List.filter_cons]
  cases p a <;> rfl

theorem countA_of_adds (p : Action → Bool) {P : Action → Prop} {w w' : World} (h : Adds P w w')
    (hp : ∀ a, P a → p a = false) : countA p w' = countA p w := by
  obtain ⟨d, e, q⟩ := h
  unfold countA
  rw [e, List.filter_append, List.filter_eq_nil_iff.2 fun a ha => by rw [hp a (q a ha)]; exact Bool.false_ne_true]
  rfl

theorem withRequestId_trace (b : Request.Builder) (w : World) : (withRequestId b w).2.trace = w.trace := rfl

theorem backoff_trace (attempt : Nat) (w : World) :
    (backoff attempt w).trace = .timerArm (.for_ (backoffMs attempt (popJitter w).1 * 1000000)) :: w.trace := by
  unfold backoff
  rw [popJitter_eq]
  rfl

/-- What processing an outcome may log: a poll-interval announcement, storage operations. -/
def tOutcome : Tag → Bool
  | .protoEv | .storage => true
  | _ => false

/-- For every count that ignores events and storage operations, a request adds one action: the
exchange or, when the request cannot be built, the build error. -/
theorem omahaRequest_counts (k : ReqKind) (b : Request.Builder) (w : World) :
    ∃ a, ((∃ e, a = .buildError k e) ∨ ∃ n o, a = .http (mkReq k b n) o) ∧
      ∀ p : Action → Bool, (∀ e, p (.event e) = false) → (∀ op o, p (.storage op o) = false) →
        countA p (omahaRequest k b w).2 = countA p w + (p a).toNat := by
  unfold omahaRequest
  split
  · exact ⟨_, .inl ⟨_, rfl⟩, fun p _ _ => countA_cons p rfl⟩
  · refine ⟨.http (mkReq k b (if w.cup.isSome then some w.nNonce else none)) (sendRequest k b w).1,
      .inr ⟨_, _, rfl⟩, fun p he hs => ?_⟩
    rw [← countA_cons p (sendRequest_mkReq k b w)]
    refine countA_of_adds p (steps_handleOutcome (S := { tag := tOutcome }) rfl rfl (.refl _)).adds fun a ha => ?_
    cases a with
    | event e => exact he e
    | storage op o => exact hs op o
    | _ => cases ha

/-- One attempt of the loop is one request or build error of kind update check and at most one
response-time metric (none if the monotonic clock has gone backwards: the `if` in the code). -/
theorem attemptOnce_counts (b : Request.Builder) (w : World) :
    countA isAttempt (attemptOnce b w).2 = countA isAttempt w + 1 ∧
    countA isRT (attemptOnce b w).2 ≤ countA isRT w + 1 ∧
    ucCount (attemptOnce b w).2 ≤ ucCount w + 1 := by
  obtain ⟨a, ha, h⟩ := omahaRequest_counts .updateCheck (withRequestId b w).1 (withRequestId b w).2
  have ha : isAttempt a = true ∧ isRT a = false := by
    rcases ha with ⟨e, rfl⟩ | ⟨n, o, rfl⟩ <;> exact ⟨rfl, rfl⟩
  unfold attemptOnce
  generalize omahaRequest .updateCheck (withRequestId b w).1 (withRequestId b w).2 = r at h ⊢
  have hA : countA isAttempt r.2 = countA isAttempt w + 1 := by
    rw [h isAttempt (fun _ => rfl) (fun _ _ => rfl), ha.1]; rfl
  have hR : countA isRT r.2 = countA isRT w := by
    rw [h isRT (fun _ => rfl) (fun _ _ => rfl), ha.2]; rfl
  have hU : countA isUC r.2 ≤ countA isUC w + 1 := by
    rw [h isUC (fun _ => rfl) (fun _ _ => rfl)]
    exact Nat.add_le_add_left (Bool.toNat_le _) _
  simp only
  split
  · -- the metric counts as a response time and as nothing else
    show countA isAttempt r.2 = _ ∧ countA isRT r.2 + 1 ≤ _ ∧ countA isUC r.2 ≤ _
    exact ⟨hA, Nat.le_of_eq (congrArg (· + 1) hR), hU⟩
  · exact ⟨hA, hR ▸ Nat.le_succ _, hU⟩

/-! ### At most three attempts (**attempts_le_three**) -/

/-- **attempts_le_three** (loop level). With `fuel` attempts left the loop sends at most `fuel`
update-check requests. -/
theorem attemptLoop_le (fuel attempt : Nat) (b : Request.Builder) (w : World) :
    ucCount (attemptLoop fuel attempt b w).2.2 ≤ ucCount w + fuel := by
  induction fuel generalizing attempt b w with
  | zero => exact Nat.le_refl _
  | succ fuel ih =>
    rw [attemptLoop_succ]
    have h1 := (attemptOnce_counts b w).2.2
    generalize attemptOnce b w = r at h1
    -- after this attempt `fuel` more may follow
    have h2 : ucCount r.2 + fuel ≤ ucCount w + (fuel + 1) := by omega
    cases r.1 with
    | ok body => exact Nat.le_trans (Nat.le_add_right _ _) h2
    | error f =>
      simp only
      -- neither the announcement nor the back-off timer is a request
      split
      · exact Nat.le_trans (Nat.le_add_right (ucCount r.2) _) h2
      · have hb : ucCount (backoff attempt r.2) = ucCount r.2 := countA_cons isUC (backoff_trace attempt r.2)
        exact Nat.le_trans (hb ▸ ih (attempt + 1) (withRequestId b w).1 (backoff attempt r.2)) h2

/-- **attempts_le_three.** One update check sends at most three update-check requests
(`perform_update_check` enters the loop with three attempts left; everything after the loop sends
event reports only — see `ucCount_omahaRequest_other`). -/
theorem attempts_le_three (b : Request.Builder) (w : World) :
    ucCount (attemptLoop 3 1 b w).2.2 ≤ ucCount w + 3 := attemptLoop_le 3 1 b w

theorem ucCount_omahaRequest_other (k : ReqKind) (hk : k ≠ .updateCheck) (b : Request.Builder) (w : World) :
    ucCount (omahaRequest k b w).2 = ucCount w := by
  obtain ⟨a, ha, h⟩ := omahaRequest_counts k b w
  rw [ucCount_eq, h isUC (fun _ => rfl) (fun _ _ => rfl)]
  have : isUC a = false := by
    rcases ha with ⟨e, rfl⟩ | ⟨n, o, rfl⟩
    · rfl
    · exact beq_false_of_ne hk
  rw [this]
  rfl

/-! ### When a further attempt is made (**retry_iff**) -/

/-- The loop goes on after a failed attempt exactly when the failure is transient — a transport
failure that is not a caller error, or a non-2xx status — it was not the third attempt, and no
server-dictated poll interval is in force after that attempt's header processing. -/
theorem retry_iff (f : ReqFail) (attempt : Nat) (poll : Option Nat) :
    giveUp f attempt poll = false ↔
      ((f.err = .transport ∧ f.user = false) ∨ f.err = .status) ∧ attempt < 3 ∧ poll = none := by
  unfold giveUp
  cases f.err <;> simp [and_assoc, and_left_comm]

theorem giveUp_third (f : ReqFail) (attempt : Nat) (poll : Option Nat) (h : 3 ≤ attempt) :
    giveUp f attempt poll = true :=
  eq_true_of_ne_false fun hf => Nat.not_lt.2 h ((retry_iff f attempt poll).1 hf).2.1

/-- **never_retried.** Request-construction, CUP-decoration and authentication failures are never
retried, whatever the attempt number. -/
theorem never_retried (f : ReqFail) (attempt : Nat) (poll : Option Nat)
    (h : f.err = .json ∨ f.err = .httpBuilder ∨ f.err = .cupDecoration ∨ f.err = .cupValidation) :
    giveUp f attempt poll = true := by
  unfold giveUp
  rcases h with h | h | h | h <;> simp [h]

/-- Which failure each outcome of an exchange is: transport failures (flagged when caused by the
caller), authentication failures, or a non-2xx status; a 2xx response is a success whatever its
body (an unparseable body is not a request failure and is never retried — the loop has ended). -/
theorem outcome_classification (o : HttpOutcome) (w : World) :
    (handleOutcome o w).1 =
      match o with
      | .fail k _ => .error ⟨.transport, k == .user⟩
      | .response st _ body auth _ =>
        if w.cup.isSome ∧ !auth then .error ⟨.cupValidation, false⟩
        else if 200 ≤ st ∧ st < 300 then .ok body else .error ⟨.status, false⟩ := by
  cases o with
  | fail k dt => rfl
  | response st ra body auth dt =>
    rw [handleOutcome_response]
    exact apply_ite Prod.fst ..

inductive Attempts : Nat → Request.Builder → World → Except ReqFail Bytes × Nat × World → Prop
  | ok {attempt : Nat} {b : Request.Builder} {w : World} {body : Bytes} : (attemptOnce b w).1 = .ok body →
      Attempts attempt b w (.ok body, attempt, (attemptOnce b w).2)
  | gaveUp {attempt : Nat} {b : Request.Builder} {w : World} {f : ReqFail} : (attemptOnce b w).1 = .error f →
      giveUp f attempt (attemptOnce b w).2.ctx.st.poll = true →
      Attempts attempt b w (.error f, attempt, yieldEv (.state .errorChecking) (attemptOnce b w).2)
  | retry {attempt : Nat} {b : Request.Builder} {w : World} {f : ReqFail} {r : Except ReqFail Bytes × Nat × World} :
      (attemptOnce b w).1 = .error f → giveUp f attempt (attemptOnce b w).2.ctx.st.poll = false →
      Attempts (attempt + 1) (withRequestId b w).1 (backoff attempt (attemptOnce b w).2) r → Attempts attempt b w r

/-- A third attempt is never retried, so fuel for the attempts up to the third is all the loop
needs: `perform_update_check` enters it with `fuel = 3`, `attempt = 1`. -/
theorem attemptLoop_run (fuel attempt : Nat) (b : Request.Builder) (w : World) (hf : 4 ≤ fuel + attempt) (h1 : 1 ≤ fuel) :
    Attempts attempt b w (attemptLoop fuel attempt b w) := by
  induction fuel generalizing attempt b w with
  | zero => cases h1
  | succ fuel ih =>
    rw [attemptLoop_succ]
    cases h : (attemptOnce b w).1 with
    | ok body => exact .ok h
    | error f =>
      simp only
      split
      · exact .gaveUp h ‹_›
      · have hg := eq_false_of_ne_true ‹_›
        have : attempt < 3 := ((retry_iff f attempt _).1 hg).2.1
        exact .retry h hg (ih _ _ _ (by omega) (by omega))

/-! ### Back-off (**backoff_window**) -/

/-- The wait armed after the `k`-th failure lies in `[2^(k-1) s − 500 ms, 2^(k-1) s + 500 ms)`. -/
theorem backoff_window (k : Nat) (j : Int) (hk : 1 ≤ k) :
    2 ^ (k - 1) * 1000 - 500 ≤ backoffMs k j ∧ backoffMs k j < 2 ^ (k - 1) * 1000 + 500 := by
  unfold backoffMs
  -- the jitter term lies in [0, 1000); the subtraction is exact as `1 ≤ 2 ^ (k - 1)`
  have hj : (j % 1000).toNat < 1000 :=
    (Int.toNat_lt (Int.emod_nonneg _ (by decide))).2 (Int.emod_lt_of_pos _ (by decide))
  have hp : 1 ≤ 2 ^ (k - 1) := Nat.one_le_two_pow
  generalize (j % 1000).toNat = t at hj ⊢
  generalize 2 ^ (k - 1) = p at hp ⊢
  omega

/-- The three possible bases: 1 s, 2 s (and 4 s, never armed because the third failure ends the
loop). -/
theorem backoff_bases : (2 ^ (1 - 1) * 1000 = 1000) ∧ (2 ^ (2 - 1) * 1000 = 2000) := by decide

/-! ### Event reports and pings are sent once (**single_shot_reports**) -/

theorem httpCount_omahaRequest_le (k : ReqKind) (b : Request.Builder) (w : World) :
    httpCount (omahaRequest k b w).2 ≤ httpCount w + 1 := by
  obtain ⟨a, -, h⟩ := omahaRequest_counts k b w
  rw [httpCount_eq, h isHttpB (fun _ => rfl) (fun _ _ => rfl)]
  exact Nat.add_le_add_left (Bool.toNat_le _) _

/-- A report is one exchange at most, delivered or not: a lost report is counted by metrics, never
re-sent. -/
theorem httpCount_report_le (b : Request.Builder) (lost : List Omaha.Event) (w : World) :
    httpCount (report b lost w) ≤ httpCount w + 1 := by
  have key := httpCount_omahaRequest_le .eventReport (withRequestId b w).1 (withRequestId b w).2
  unfold report
  split
  · exact key
  · -- the lost-event metrics are not exchanges
    rwa [httpCount_eq, countA_of_adds isHttpB (steps_lost (S := { tag := tBook }) rfl (.refl _)).adds
      fun a ha => by cases a <;> first | rfl | cases ha]

/-- For a template report (`reportResults` is a `report` as well: `reportResults_eq`). -/
theorem report_single_shot (params : RequestParams) (ev : Omaha.Event) (apps : List App) (session : Nat)
    (nv : List (Bytes × Option Bytes)) (ns : Option Nat) (w : World) :
    httpCount (reportEvent params ev apps session nv ns w) ≤ httpCount w + 1 := by
  rw [reportEvent_eq]
  exact httpCount_report_le _ _ w

/-! ### Metrics account for the attempts made (**metrics_account**) -/

theorem Attempts.range {attempt : Nat} {b : Request.Builder} {w : World} {r : Except ReqFail Bytes × Nat × World}
    (h : Attempts attempt b w r) (h3 : attempt ≤ 3) : attempt ≤ r.2.1 ∧ r.2.1 ≤ 3 := by
  induction h with
  | ok _ => exact ⟨Nat.le_refl _, h3⟩
  | gaveUp _ _ => exact ⟨Nat.le_refl _, h3⟩
  | retry _ hg _ ih =>
    have := ((retry_iff _ _ _).1 hg).2.1
    exact ⟨Nat.le_of_succ_le (ih this).1, (ih this).2⟩

/-- The attempt number the loop returns — which `perform_update_check` reports as
`RequestsPerCheck.count` — is the number of attempts made: between the starting number and 3. -/
theorem attempts_range (fuel attempt : Nat) (b : Request.Builder) (w : World)
    (h : attempt + fuel = 4) (hf : 1 ≤ fuel) :
    attempt ≤ (attemptLoop fuel attempt b w).2.1 ∧ (attemptLoop fuel attempt b w).2.1 ≤ 3 :=
  (attemptLoop_run fuel attempt b w (by omega) hf).range (by omega)

/-- For a check: `RequestsPerCheck.count ∈ {1, 2, 3}`. -/
theorem requests_per_check_range (b : Request.Builder) (w : World) :
    1 ≤ (attemptLoop 3 1 b w).2.1 ∧ (attemptLoop 3 1 b w).2.1 ≤ 3 := attempts_range 3 1 b w rfl (by omega)

theorem Attempts.accounting {attempt : Nat} {b : Request.Builder} {w : World} {r : Except ReqFail Bytes × Nat × World}
    (h : Attempts attempt b w r) :
    countA isAttempt r.2.2 + attempt = countA isAttempt w + r.2.1 + 1 ∧
    countA isRT r.2.2 + attempt ≤ countA isRT w + r.2.1 + 1 := by
  induction h with
  | @ok attempt b w _ _ =>
    obtain ⟨hA, hR, -⟩ := attemptOnce_counts b w
    simp only
    omega
  | @gaveUp attempt b w _ _ _ =>
    obtain ⟨hA, hR, -⟩ := attemptOnce_counts b w
    generalize attemptOnce b w = x at hA hR ⊢
    -- the announcement is neither an attempt nor a metric
    show countA isAttempt x.2 + attempt = countA isAttempt w + attempt + 1 ∧
      countA isRT x.2 + attempt ≤ countA isRT w + attempt + 1
    omega
  | @retry attempt b w _ _ _ _ _ ih =>
    obtain ⟨hA, hR, -⟩ := attemptOnce_counts b w
    generalize attemptOnce b w = x at hA hR ih
    -- nor is the back-off timer
    have hbA : countA isAttempt (backoff attempt x.2) = countA isAttempt x.2 :=
      countA_cons isAttempt (backoff_trace attempt x.2)
    have hbR : countA isRT (backoff attempt x.2) = countA isRT x.2 := countA_cons isRT (backoff_trace attempt x.2)
    omega

/-- **requests_per_check_counts_attempts.** The attempt number the loop returns (reported as
`RequestsPerCheck.count`) is exactly the number of attempts made — requests sent plus requests that
could not be built — and the loop emits at most one response-time metric per attempt (exactly one
whenever the monotonic clock has not gone backwards during the attempt: the `if` in the code). -/
theorem attemptLoop_accounting (fuel attempt : Nat) (b : Request.Builder) (w : World) (h : attempt + fuel = 4) (hf : 1 ≤ fuel) :
    countA isAttempt (attemptLoop fuel attempt b w).2.2 + attempt = countA isAttempt w + (attemptLoop fuel attempt b w).2.1 + 1 ∧
    countA isRT (attemptLoop fuel attempt b w).2.2 + attempt ≤ countA isRT w + (attemptLoop fuel attempt b w).2.1 + 1 :=
  (attemptLoop_run fuel attempt b w (by omega) hf).accounting

/-- For a whole check the loop is entered with `attempt = 1`: `count` attempts, at most `count`
response-time metrics. -/
theorem requests_per_check_counts_attempts (b : Request.Builder) (w : World) :
    countA isAttempt (attemptLoop 3 1 b w).2.2 = countA isAttempt w + (attemptLoop 3 1 b w).2.1 ∧
    countA isRT (attemptLoop 3 1 b w).2.2 ≤ countA isRT w + (attemptLoop 3 1 b w).2.1 :=
  -- the `+ 1` of `attempt = 1` cancels on both sides
  (attemptLoop_accounting 3 1 b w rfl (by decide)).imp Nat.add_right_cancel Nat.le_of_add_le_add_right

/-! ### Non-vacuity -/

example : giveUp ⟨.transport, false⟩ 1 none = false ∧ giveUp ⟨.transport, true⟩ 1 none = true ∧
    giveUp ⟨.status, false⟩ 2 none = false ∧ giveUp ⟨.status, false⟩ 3 none = true ∧
    giveUp ⟨.status, false⟩ 1 (some 5) = true ∧ giveUp ⟨.cupValidation, false⟩ 1 none = true := by decide
example : backoffMs 1 123 = 623 ∧ backoffMs 2 123 = 1623 := by decide

end Omaha.SM
