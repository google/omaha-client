/-
`Steps` for every function of the state-machine model, from the storage primitives up to a history
of iterations of `run` (`runUnits`): one lemma per function, each composing the lemmas of the
functions it calls.
The hypotheses name the tags the function may log (`S.tag t = true`), what its requests are built
from (`S.req`), and `S.outer = true` where it changes the app set, the failure counter or the script.
-/
import Omaha.Lemmas.SMSteps
import Omaha.Lemmas.SMBuilders

namespace Omaha.SM

open Omaha

variable {S : Scope}

variable {w0 w : World}

theorem steps_setOptionInt {k : Bytes} {v : Option Int} (hs : S.tag .storage = true) (h : Steps S w0 w) :
    Steps S w0 (setOptionInt k v w).2 := by
  unfold setOptionInt; split <;> exact steps_storeOp hs h

theorem steps_setTime {k : Bytes} {t : Int} (hs : S.tag .storage = true) (h : Steps S w0 w) :
    Steps S w0 (setTime k t w).2 := steps_setOptionInt hs h

theorem steps_persistCtx (hs : S.tag .storage = true) (h : Steps S w0 w) : Steps S w0 (persistCtx w) :=
  steps_setOptionInt hs (steps_setOptionInt hs (steps_setOptionInt hs h))

theorem steps_persistApps {apps : List App} (hs : S.tag .storage = true) (h : Steps S w0 w) :
    Steps S w0 (persistApps apps w) := by
  induction apps generalizing w with
  | nil => exact h
  | cons a rest ih => exact ih (steps_storeOp_ hs h)

theorem steps_persistData (hs : S.tag .storage = true) (h : Steps S w0 w) : Steps S w0 (persistData w) :=
  steps_storeOp_ hs (steps_persistApps hs (steps_persistCtx hs h))

theorem steps_applyPoll {poll : Option Nat} (hs : S.tag .storage = true) (hp : S.tag .protoEv = true)
    (h : Steps S w0 w) : Steps S w0 (applyPoll poll w) := by
  unfold applyPoll
  split
  · exact steps_storeOp_ hs (steps_persistCtx hs (steps_yield hp (steps_ctx rfl h)))
  · exact h

theorem steps_handleOutcome {o : HttpOutcome} (hs : S.tag .storage = true) (hp : S.tag .protoEv = true)
    (h : Steps S w0 w) : Steps S w0 (handleOutcome o w).2 := by
  cases o with
  | fail k dt => exact steps_tick h
  | response status ra body auth dt =>
    rw [handleOutcome_response]
    by_cases hc : w.cup.isSome ∧ !auth
    · rw [if_pos hc]; exact steps_tick h
    · rw [if_neg hc]; exact steps_applyPoll hs hp (steps_tick h)

theorem steps_request {k : ReqKind} {b : Request.Builder} (hk : S.tag (.http k) = true) (hs : S.tag .storage = true)
    (hp : S.tag .protoEv = true) (hb : S.tag .buildErr = true) (hB : S.req (withRequestId b w).1)
    (h : Steps S w0 w) : Steps S w0 (omahaRequest k (withRequestId b w).1 (withRequestId b w).2).2 := by
  unfold omahaRequest
  split
  · exact steps_emit rfl hb (steps_nextGuid h)
  · exact steps_handleOutcome hs hp (.send k b h hk hB)

theorem steps_backoff {attempt : Nat} (ht : S.tag .timerArm = true) (h : Steps S w0 w) :
    Steps S w0 (backoff attempt w) := by
  unfold backoff
  rw [popJitter_eq]
  exact steps_tick (steps_nTimer (steps_emit rfl ht
    (.quiet h ⟨rfl, rfl, rfl, rfl, Nat.le_refl _⟩ fun _ => ⟨rfl, rfl, rfl, rfl, rfl, rfl, rfl, rfl, rfl, rfl, rfl⟩)))

theorem steps_attemptOnce {b : Request.Builder} (hk : S.tag (.http .updateCheck) = true) (hs : S.tag .storage = true)
    (hp : S.tag .protoEv = true) (hb : S.tag .buildErr = true) (hm : S.tag .metric = true)
    (hB : S.req (withRequestId b w).1) (h : Steps S w0 w) : Steps S w0 (attemptOnce b w).2 := by
  unfold attemptOnce
  simp only
  split
  · exact steps_metric hm (steps_request hk hs hp hb hB h)
  · exact steps_request hk hs hp hb hB h

theorem steps_attemptLoop {fuel attempt : Nat} {b : Request.Builder}
    (hk : S.tag (.http .updateCheck) = true) (hs : S.tag .storage = true)
    (hp : S.tag .protoEv = true) (hb : S.tag .buildErr = true) (hm : S.tag .metric = true)
    (ht : S.tag .timerArm = true) (he : S.tag (.stateEv .errorChecking) = true)
    (hB : ∀ w', S.req (withRequestId b w').1) (h : Steps S w0 w) :
    Steps S w0 (attemptLoop fuel attempt b w).2.2 := by
  induction fuel generalizing attempt b w with
  | zero => exact h
  | succ fuel ih =>
    rw [attemptLoop_succ]
    have h1 := steps_attemptOnce hk hs hp hb hm (hB w) h
    generalize attemptOnce b w = r at h1
    cases r.1 with
    | ok body => exact h1
    | error f =>
      simp only
      split
      · exact steps_yield he h1
      · exact ih hB (steps_backoff ht h1)

theorem steps_lost {lost : List Omaha.Event} (hm : S.tag .metric = true) (h : Steps S w0 w) :
    Steps S w0 (lost.foldl (fun w e => metric (.eventLost e) w) w) :=
  steps_foldl (fun _ => steps_metric hm) lost h

theorem steps_report {b : Request.Builder} {lost : List Omaha.Event}
    (hk : S.tag (.http .eventReport) = true) (hs : S.tag .storage = true) (hp : S.tag .protoEv = true)
    (hb : S.tag .buildErr = true) (hm : S.tag .metric = true) (hB : S.req (withRequestId b w).1) (h : Steps S w0 w) :
    Steps S w0 (report b lost w) := by
  unfold report
  split
  · exact steps_request hk hs hp hb hB h
  · exact steps_lost hm (steps_request hk hs hp hb hB h)

theorem steps_reportEvent {params : RequestParams} {ev : Omaha.Event} {apps : List App} {session : Nat}
    {nv : List (Bytes × Option Bytes)} {ns : Option Nat}
    (hk : S.tag (.http .eventReport) = true) (hs : S.tag .storage = true)
    (hp : S.tag .protoEv = true) (hb : S.tag .buildErr = true) (hm : S.tag .metric = true)
    (hB : ∀ b, Canon params session b → S.req b) (h : Steps S w0 w) :
    Steps S w0 (reportEvent params ev apps session nv ns w) := by
  rw [reportEvent_eq]
  exact steps_report hk hs hp hb hm (hB _ (canon_eventBuilder params ev apps session nv ns)) h

theorem steps_reportResults {params : RequestParams} {evs : List (App × Omaha.Event)} {session : Nat}
    (hk : S.tag (.http .eventReport) = true) (hs : S.tag .storage = true)
    (hp : S.tag .protoEv = true) (hb : S.tag .buildErr = true) (hm : S.tag .metric = true)
    (hB : ∀ b, Canon params session b → S.req b) (h : Steps S w0 w) :
    Steps S w0 (reportResults params evs session w) := by
  rw [reportResults_eq]
  exact steps_report hk hs hp hb hm (hB _ (canon_resultsBuilder params evs session)) h

theorem steps_reportCheckInterval {src : InstallSource} (hm : S.tag .metric = true) (h : Steps S w0 w) :
    Steps S w0 (reportCheckInterval src w) := by
  rw [reportCheckInterval]
  refine steps_ctx rfl ?_
  split
  · split
    · exact steps_metric hm h
    · exact h
  · split
    · exact steps_metric hm h
    · exact h
  · exact h

theorem steps_recordFirstSeen {planId : Bytes} {now : Int} (hs : S.tag .storage = true) (h : Steps S w0 w) :
    Steps S w0 (recordFirstSeen planId now w).2 := by
  have h1 : Steps S w0 (storeOp (.set kInstallPlanId (.str planId)) w).2 := steps_storeOp hs h
  have h2 := steps_setTime (k := kFirstSeen) (t := now) hs h1
  fun_cases recordFirstSeen planId now w
  · exact h
  · fun_cases recordNewPlan planId now w
    · exact h1
    · exact steps_storeOp_ hs h2
    · exact steps_storeOp_ hs h2

theorem steps_firstSeenMetric {firstSeen finish : Int} (hm : S.tag .metric = true) (h : Steps S w0 w) :
    Steps S w0 (firstSeenMetric firstSeen finish w) := by
  unfold firstSeenMetric
  split
  · exact steps_metric hm h
  · exact h

theorem steps_setTargetVersion {nv : List (Bytes × Option Bytes)} (hs : S.tag .storage = true) (h : Steps S w0 w) :
    Steps S w0 (setTargetVersion nv w) := by
  unfold setTargetVersion
  split
  · exact steps_storeOp_ hs h
  · exact h

theorem steps_recordFinish {planId : Nat} {firstSeen finish : Int} {nv : List (Bytes × Option Bytes)}
    (hm : S.tag .metric = true) (hs : S.tag .storage = true) (hr : S.tag .pRebootNeeded = true) (h : Steps S w0 w) :
    Steps S w0 (recordFinish planId firstSeen finish nv w).2 :=
  steps_emit rfl hr (steps_storeOp_ hs (steps_setTargetVersion hs (steps_setTime hs (steps_firstSeenMetric hm h))))

theorem steps_progressFold {ps : List Nat} (hp : S.tag .progressEv = true) (h : Steps S w0 w) :
    Steps S w0 (ps.foldl (fun w k => yieldEv (.progress k) w) w) :=
  steps_foldl (fun _ => steps_yield hp) ps h

theorem steps_insterrFold {ms : List Nat} (hi : S.tag .insterrEv = true) (h : Steps S w0 w) :
    Steps S w0 (ms.foldl (fun w m => yieldEv (.installerError m) w) w) :=
  steps_foldl (fun _ => steps_yield hi) ms h

theorem steps_runInstall {planId : Nat} (hi : S.tag .install = true) (hp : S.tag .progressEv = true)
    (h : Steps S w0 w) : Steps S w0 (runInstall planId w) :=
  steps_tick (steps_progressFold hp (steps_emit rfl hi h))

theorem steps_durationMetric {startWall : Int} {results : List AppResult} (hm : S.tag .metric = true)
    (h : Steps S w0 w) : Steps S w0 (durationMetric startWall results w).2 := by
  fun_cases durationMetric startWall results w
  · exact steps_metric hm h
  · exact h

theorem steps_reportInstall {params : RequestParams} {apps : List App} {session : Nat}
    {nv : List (Bytes × Option Bytes)} {response : Resp.Response} {results : List AppResult} {ns : Option Nat}
    (hk : S.tag (.http .eventReport) = true) (hs : S.tag .storage = true)
    (hp : S.tag .protoEv = true) (hb : S.tag .buildErr = true) (hm : S.tag .metric = true)
    (hB : ∀ b, Canon params session b → S.req b) (h : Steps S w0 w) :
    Steps S w0 (reportInstall params apps session nv response results ns w) := by
  unfold reportInstall
  simp only
  have h1 := steps_reportResults (evs := resultEvents (knownResults apps response results) ns) hk hs hp hb hm hB h
  split
  · exact h1
  · exact steps_reportEvent hk hs hp hb hm hB h1

/-! From here on the lemmas are about a whole check: `S` may log every tag of `tCheckBody`, and every
request is built with the check's parameters and session. -/

theorem steps_finishInstall {planId : Nat} {firstSeen finish : Int} {nv : List (Bytes × Option Bytes)}
    {response : Resp.Response} {results : List AppResult} (hc : S.has tCheckBody) (h : Steps S w0 w) :
    Steps S w0 (finishInstall planId firstSeen finish nv response results w).2 := by
  fun_cases finishInstall planId firstSeen finish nv response results w
  · exact steps_yield (hc _ rfl) (steps_insterrFold (hc _ rfl) h)
  · exact steps_recordFinish (hc _ rfl) (hc _ rfl) (hc _ rfl) h

theorem steps_installPhase {params : RequestParams} {apps : List App} {session : Nat}
    {nv : List (Bytes × Option Bytes)} {response : Resp.Response} {planId : Nat}
    (hc : S.has tCheckBody) (hB : ∀ b, Canon params session b → S.req b) (h : Steps S w0 w) :
    Steps S w0 (installPhase params apps session nv response planId w).2 :=
  steps_finishInstall hc
    (steps_reportInstall (hc _ rfl) (hc _ rfl) (hc _ rfl) (hc _ rfl) (hc _ rfl) hB
      (steps_durationMetric (hc _ rfl)
        (steps_runInstall (hc _ rfl) (hc _ rfl)
          (steps_recordFirstSeen (hc _ rfl)
            (steps_reportEvent (hc _ rfl) (hc _ rfl) (hc _ rfl) (hc _ rfl) (hc _ rfl) hB
              (steps_yield (hc _ rfl) h))))))

theorem failedMessages_isEmpty (rs : List AppResult) : (failedMessages rs).isEmpty = noFailure rs := by
  induction rs with
  | nil => rfl
  | cons r rest ih =>
    cases r with
    | failed m => rfl
    | installed => exact ih
    | deferred => exact ih

theorem finishInstall_failed {results : List AppResult} (h : noFailure results = false) (planId : Nat)
    (firstSeen finish : Int) (nv : List (Bytes × Option Bytes)) (response : Resp.Response) (w : World) :
    finishInstall planId firstSeen finish nv response results w =
      (some (.ok ⟨installResponses response results, false⟩),
       yieldEv (.state .installationError) ((failedMessages results).foldl (fun w m => yieldEv (.installerError m) w) w)) := by
  unfold finishInstall
  rw [failedMessages_isEmpty, h]
  rfl

theorem finishInstall_ok {results : List AppResult} (h : noFailure results = true) (planId : Nat)
    (firstSeen finish : Int) (nv : List (Bytes × Option Bytes)) (response : Resp.Response) (w : World) :
    finishInstall planId firstSeen finish nv response results w =
      (some (.ok ⟨installResponses response results, (recordFinish planId firstSeen finish nv w).1⟩),
       (recordFinish planId firstSeen finish nv w).2) := by
  unfold finishInstall
  rw [failedMessages_isEmpty, h]
  rfl

theorem reportEvent_quiet (params : RequestParams) (ev : Omaha.Event) (apps : List App) (session : Nat)
    (nv : List (Bytes × Option Bytes)) (ns : Option Nat) (w : World) :
    Steps { tag := tQuiet } w (reportEvent params ev apps session nv ns w) :=
  steps_reportEvent rfl rfl rfl rfl rfl (fun _ _ => trivial) (.refl w)

theorem reportInstall_quiet (params : RequestParams) (apps : List App) (session : Nat) (nv : List (Bytes × Option Bytes))
    (response : Resp.Response) (results : List AppResult) (ns : Option Nat) (w : World) :
    Steps { tag := tQuiet } w (reportInstall params apps session nv response results ns w) :=
  steps_reportInstall rfl rfl rfl rfl rfl (fun _ _ => trivial) (.refl w)

/-- The install path in parts; `reportInstall` and `finishInstall` are given the results the script holds at
the start, which the steps before them do not change. -/
theorem installPhase_parts (params : RequestParams) (apps : List App) (session : Nat) (nv : List (Bytes × Option Bytes))
    (response : Resp.Response) (planId : Nat) (w : World) :
    ∃ firstSeen ns w2 w4,
      Steps { tag := tBook } (reportEvent params (eventSuccess 13) apps session nv none (yieldEv (.state .installing) w)) w2 ∧
      Steps { tag := tBook } (runInstall planId w2) w4 ∧
      installPhase params apps session nv response planId w =
        finishInstall planId firstSeen (runInstall planId w2).clock.wall nv response w.env.results
          (reportInstall params apps session nv response w.env.results ns w4) := by
  unfold installPhase
  extract_lets w1 r2 w3 r4 w5
  have h2 : Steps { tag := tBook } w1 r2.2 := steps_recordFirstSeen rfl (.refl _)
  have hr : r2.2.env.results = w.env.results :=
    (h2.frame rfl).results.trans ((reportEvent_quiet ..).frame rfl).results
  refine ⟨r2.1, r4.1, r2.2, r4.2, h2, steps_durationMetric rfl (.refl _), ?_⟩
  rw [← hr]

theorem installPhase_frame (params : RequestParams) (apps : List App) (session : Nat) (nv : List (Bytes × Option Bytes))
    (response : Resp.Response) (planId : Nat) (w : World) :
    Frame w (installPhase params apps session nv response planId w).2 :=
  (steps_installPhase (S := { tag := tCheckBody }) (fun _ h => h) (fun _ _ => trivial) (.refl w)).frame rfl

theorem steps_updatePhase {params : RequestParams} {apps : List App} {session : Nat} {response : Resp.Response}
    (hc : S.has tCheckBody) (hB : ∀ b, Canon params session b → S.req b) (h : Steps S w0 w) :
    Steps S w0 (updatePhase params apps session response w).2 := by
  have report : ∀ {ev nv w}, Steps S w0 w → Steps S w0 (reportEvent params ev apps session nv none w) :=
    steps_reportEvent (hc _ rfl) (hc _ rfl) (hc _ rfl) (hc _ rfl) (hc _ rfl) hB
  have h0 : Steps S w0 (emit (.plan params.source w.cup.isSome w.env.plan) w) := steps_emit rfl (hc _ rfl) h
  -- no plan; the policy defers, denies, approves
  fun_cases updatePhase params apps session response w
  · exact report (steps_yield (hc _ rfl) (steps_yield (hc _ rfl) h0))
  · exact steps_yield (hc _ rfl) (report (steps_emit rfl (hc _ rfl) h0))
  · exact report (steps_emit rfl (hc _ rfl) h0)
  · exact steps_installPhase hc hB (steps_emit rfl (hc _ rfl) h0)

theorem steps_responsePhase {params : RequestParams} {apps : List App} {session : Nat} {body : Bytes}
    (hc : S.has tCheckBody) (hB : ∀ b, Canon params session b → S.req b) (h : Steps S w0 w) :
    Steps S w0 (responsePhase params apps session body w).2 := by
  -- the body is outside the model; does not parse; offers no update; offers one
  fun_cases responsePhase params apps session body w
  · exact h
  · exact steps_reportEvent (hc _ rfl) (hc _ rfl) (hc _ rfl) (hc _ rfl) (hc _ rfl) hB (steps_yield (hc _ rfl) h)
  · exact steps_yield (hc _ rfl) (steps_yield (hc _ rfl) h)
  · exact steps_updatePhase hc hB (steps_yield (hc _ rfl) h)

theorem steps_requestPhase {params : RequestParams} {apps : List App} (hc : S.has tCheckBody)
    (hB : ∀ b, Canon params (sessionOf params w) b → S.req b) (h : Steps S w0 w) :
    Steps S w0 (requestPhase params apps w).2.2 :=
  steps_attemptLoop (hc _ rfl) (hc _ rfl) (hc _ rfl) (hc _ rfl) (hc _ rfl) (hc _ rfl) (hc _ rfl)
    (fun _ => hB _ (canon_checkBuilder params apps _))
    (steps_nextGuid (steps_reportCheckInterval (hc _ rfl) (steps_yield (hc _ rfl) h)))

theorem steps_checkRest {params : RequestParams} {apps : List App} (hc : S.has tCheckBody)
    (hB : ∀ b, Canon params (sessionOf params w) b → S.req b)
    (h : Steps S w0 (nextGuid (reportCheckInterval params.source (yieldEv (.state (.checking params.source)) w))).2) :
    Steps S w0 (performUpdateCheck params apps w).2 := by
  unfold performUpdateCheck
  unfold sessionOf at hB
  simp only
  generalize nextGuid _ = g at h hB
  have h3 := steps_attemptLoop (fuel := 3) (attempt := 1) (b := checkBuilder params apps g.1) (hc _ rfl) (hc _ rfl)
    (hc _ rfl) (hc _ rfl) (hc _ rfl) (hc _ rfl) (hc _ rfl) (fun _ => hB _ (canon_checkBuilder params apps g.1)) h
  generalize attemptLoop 3 1 (checkBuilder params apps g.1) g.2 = r at h3
  obtain ⟨res, attempts, w2⟩ := r
  have h4 : Steps S w0 (metric (.requestsPerCheck attempts (isOk res)) w2) := steps_metric (hc _ rfl) h3
  cases res with
  | error f => exact h4
  | ok body => exact steps_responsePhase hc hB h4

theorem steps_performUpdateCheck {params : RequestParams} {apps : List App} (hc : S.has tCheckBody)
    (hB : ∀ b, Canon params (sessionOf params w) b → S.req b) (h : Steps S w0 w) :
    Steps S w0 (performUpdateCheck params apps w).2 :=
  steps_checkRest hc hB (steps_nextGuid (steps_reportCheckInterval (hc _ rfl) (steps_yield (hc _ rfl) h)))

theorem frame_performUpdateCheck (params : RequestParams) (apps : List App) (w : World) :
    Frame w (performUpdateCheck params apps w).2 :=
  (steps_performUpdateCheck (S := { tag := tCheckBody }) (fun _ h => h) (fun _ _ => trivial) (.refl w)).frame rfl

theorem frame_persistData (w : World) : Frame w (persistData w) :=
  (steps_persistData (S := { tag := tStorage }) rfl (.refl w)).frame rfl

theorem addsQ_attemptLoop_noState (fuel attempt : Nat) (b : Request.Builder) (w : World) :
    AddsT tLoop w (attemptLoop fuel attempt b w).2.2 :=
  (steps_attemptLoop (S := { tag := tLoop }) rfl rfl rfl rfl rfl rfl rfl (fun _ => trivial) (.refl w)).adds

theorem steps_reportAttemptsInstall {success : Bool} (hm : S.tag .metric = true) (hs : S.tag .storage = true)
    (h : Steps S w0 w) : Steps S w0 (reportAttemptsInstall success w) := by
  unfold reportAttemptsInstall
  cases success <;> exact steps_storeOp_ hs (steps_metric hm h)

theorem steps_reportAttemptsCheck {success : Bool} (ho : S.outer = true) (hm : S.tag .metric = true)
    (h : Steps S w0 w) : Steps S w0 (reportAttemptsCheck success w) := by
  unfold reportAttemptsCheck
  simp only
  split
  · exact steps_metric hm (steps_failures ho h)
  · exact steps_failures ho h

theorem steps_setLastUpdate (h : Steps S w0 w) : Steps S w0 (setLastUpdate w) := steps_ctx rfl h

theorem steps_prepareOk {ok : CheckOk} (ho : S.outer = true) (hm : S.tag .metric = true) (hs : S.tag .storage = true)
    (h : Steps S w0 w) : Steps S w0 (prepareOk ok w) := by
  unfold prepareOk
  simp only
  have h1 : Steps S w0 { reportAttemptsCheck true (setLastUpdate w) with
      apps := updateFromOmaha (reportAttemptsCheck true (setLastUpdate w)).apps ok.responses } :=
    steps_apps ho (steps_reportAttemptsCheck ho hm (steps_setLastUpdate h))
  split
  · exact steps_reportAttemptsInstall hm hs h1
  · exact h1

theorem steps_prepareErr {e : CheckErr} (ho : S.outer = true) (hm : S.tag .metric = true) (h : Steps S w0 w) :
    Steps S w0 (prepareErr e w) := by
  unfold prepareErr
  simp only
  refine steps_reportAttemptsCheck ho hm (steps_metric hm ?_)
  split
  · exact steps_setLastUpdate h
  · exact h

theorem steps_closeCheck {r : Except CheckErr (List AppResp)} (hsch : S.tag .schedEv = true)
    (hp : S.tag .protoEv = true) (hr : S.tag .resultEv = true) (hs : S.tag .storage = true) (h : Steps S w0 w) :
    Steps S w0 (closeCheck r w) :=
  steps_persistData hs (steps_yield hr (steps_yield hp (steps_yield hsch h)))

theorem steps_startUpdateCheck {params : RequestParams} (hc : S.has tCheckBody) (hsch : S.tag .schedEv = true)
    (hr : S.tag .resultEv = true) (ho : S.outer = true) (hB : ∀ b, Canon params (sessionOf params w) b → S.req b)
    (h : Steps S w0 w) : Steps S w0 (startUpdateCheck params w).2 := by
  unfold startUpdateCheck
  have h1 := steps_performUpdateCheck (apps := w.apps) hc hB h
  generalize performUpdateCheck params w.apps w = pr at h1
  obtain ⟨res, w1⟩ := pr
  cases res with
  | none => exact h1
  | some cr =>
    -- `simp only` reduces the pair's projection: unifying it with `closeCheck ?r ?w` as it stands is very slow
    cases cr with
    | ok ok =>
      simp only
      exact steps_closeCheck hsch (hc _ rfl) hr (hc _ rfl) (steps_prepareOk ho (hc _ rfl) (hc _ rfl) h1)
    | error e =>
      simp only
      exact steps_closeCheck hsch (hc _ rfl) hr (hc _ rfl) (steps_prepareErr ho (hc _ rfl) h1)

theorem steps_pingFailed (ho : S.outer = true) (hs : S.tag .storage = true) (h : Steps S w0 w) :
    Steps S w0 (pingFailed w) :=
  steps_persistData hs (steps_failures ho h)

theorem steps_pingSucceeded {r : Resp.Response} (ho : S.outer = true) (hs : S.tag .storage = true)
    (hsch : S.tag .schedEv = true) (h : Steps S w0 w) : Steps S w0 (pingSucceeded r w) :=
  steps_persistData hs (steps_apps ho (steps_yield hsch (steps_setLastUpdate (steps_failures ho h))))

theorem steps_pingOmaha (hk : S.tag (.http .ping) = true) (hs : S.tag .storage = true)
    (hp : S.tag .protoEv = true) (hb : S.tag .buildErr = true) (hsch : S.tag .schedEv = true)
    (ho : S.outer = true) (hB : ∀ b, S.req b) (h : Steps S w0 w) : Steps S w0 (pingOmaha w).2 := by
  unfold pingOmaha
  simp only
  have h1 := steps_request (k := .ping) (b := pingBuilder w.apps (nextGuid w).1) hk hs hp hb (hB _) (steps_nextGuid h)
  unfold pingBuilder at h1
  generalize omahaRequest .ping _ _ = r at h1
  obtain ⟨res, w1⟩ := r
  -- each `simp only` reduces the `match` and the pair's projection, which are very slow to unify with `pingFailed ?w`
  cases res with
  | error f => simp only; exact steps_pingFailed ho hs h1
  | ok body =>
    simp only
    cases Resp.parseJsonResponse body with
    | outside => exact h1
    | err => simp only; exact steps_pingFailed ho hs h1
    | ok r => simp only; exact steps_pingSucceeded ho hs hsch h1

theorem steps_updateNext {t : Timing} (hn : S.tag .pNext = true) (hsch : S.tag .schedEv = true) (h : Steps S w0 w) :
    Steps S w0 (updateNext t w) :=
  steps_yield hsch (steps_ctx rfl (steps_emit rfl hn h))

theorem steps_armWait {t : Timing} (ha : S.tag .timerArm = true) (h : Steps S w0 w) : Steps S w0 (armWait t w).2 := by
  unfold armWait
  split
  · exact steps_nTimer (steps_emit rfl ha (steps_emit rfl ha h))
  · exact steps_nTimer (steps_emit rfl ha h)

theorem steps_rebootLoop {opts : InstallSource} {t30 : Nat} {pingNeed : List Nat} {steps : List (WaitStep × Clock)}
    {answers : List Bool} {nexts : List Timing} (hc : S.has tRebootWait) (ho : S.outer = true) (hB : ∀ b, S.req b)
    (h : Steps S w0 w) : Steps S w0 (rebootLoop opts t30 pingNeed steps answers nexts w).2 := by
  -- a ping, and the re-arming after it, in the form the induction meets them
  have ping {w r w1} (h : Steps S w0 w) (e : pingOmaha w = (r, w1)) : Steps S w0 w1 := by
    have := steps_pingOmaha (hc _ rfl) (hc _ rfl) (hc _ rfl) (hc _ rfl) (hc _ rfl) ho hB h
    rwa [e] at this
  have rearm {t w need w1} (h : Steps S w0 w) (e : armWait t (updateNext t w) = (need, w1)) : Steps S w0 w1 := by
    have := steps_armWait (t := t) (hc _ rfl) (steps_updateNext (t := t) (hc _ rfl) (hc _ rfl) h)
    rwa [e] at this
  -- The cases, in the order of the loop's body: the script is over; the 30-minute timer (reboot allowed, refused);
  -- the last ping timer (the ping leaves the model, the ping); another timer; an on-demand request (allowed,
  -- refused); a scheduled request.  Every step first advances the clock and logs the timer or the reply.
  fun_induction rebootLoop opts t30 pingNeed steps answers nexts w
  next => exact h
  next => exact steps_emit rfl (hc _ rfl) (steps_emit rfl (hc _ rfl) (steps_tick h))
  next ih =>
    exact ih (steps_nTimer (steps_emit rfl (hc _ rfl) (steps_emit rfl (hc _ rfl) (steps_emit rfl (hc _ rfl) (steps_tick h)))))
  next hp => exact ping (steps_emit rfl (hc _ rfl) (steps_tick h)) hp
  next harm hp ih => exact ih (rearm (ping (steps_emit rfl (hc _ rfl) (steps_tick h)) hp) harm)
  next ih => exact ih (steps_emit rfl (hc _ rfl) (steps_tick h))
  next => exact steps_emit rfl (hc _ rfl) (steps_emit rfl (hc _ rfl) (steps_tick h))
  next ih => exact ih (steps_emit rfl (hc _ rfl) (steps_emit rfl (hc _ rfl) (steps_tick h)))
  next ih => exact ih (steps_emit rfl (hc _ rfl) (steps_tick h))

theorem steps_rebootWait {opts : InstallSource} {u : UnitEnv} (hc : S.has tRebootWait) (ho : S.outer = true)
    (hB : ∀ b, S.req b) (h : Steps S w0 w) : Steps S w0 (rebootWait opts u w).2 := by
  unfold rebootWait
  simp only
  have h0 : Steps S w0 (emit (.policyRebootAllowed opts (popBool u.rebootAllowed).1) w) := steps_emit rfl (hc _ rfl) h
  split
  · exact h0
  · exact steps_rebootLoop hc ho hB (steps_armWait (hc _ rfl) (steps_updateNext (hc _ rfl) (hc _ rfl)
      (steps_nTimer (steps_emit rfl (hc _ rfl) h0))))

theorem steps_waitForReboot {opts : InstallSource} {u : UnitEnv} (hc : S.has tReboot) (ho : S.outer = true)
    (hB : ∀ b, S.req b) (h : Steps S w0 w) : Steps S w0 (waitForReboot opts u w).2 := by
  unfold waitForReboot doReboot
  have h1 := steps_rebootWait (opts := opts) (u := u) (fun t ht => hc t (tRebootWait_le t ht)) ho hB h
  generalize rebootWait opts u w = p at h1
  obtain ⟨d, w1⟩ := p
  cases d with
  | none => exact h1
  | some b =>
    cases b
    · exact h1
    · exact steps_emit rfl (hc _ rfl) h1

theorem steps_reportWaited {finish startMono : Int} {w1 : World} (hm : S.tag .metric = true)
    (e : reportWaited finish startMono w = some w1) (h : Steps S w0 w) : Steps S w0 w1 := by
  simp only [reportWaited, Option.ite_none_left_eq_some, Option.some.injEq] at e
  exact e.2.2.2 ▸ steps_metric hm h

theorem steps_waitedStep {rs : RunState} (hm : S.tag .metric = true) (hs : S.tag .storage = true) (h : Steps S w0 w) :
    Steps S w0 (waitedStep rs w).2 := by
  fun_cases waitedStep rs w
  next hr _ _ => exact steps_storeOp_ hs (steps_storeOp_ hs (steps_storeOp_ hs (steps_reportWaited hm hr h)))
  next => exact h
  next => exact h
  next => exact h

theorem steps_outerWait {need : List Nat} {steps : List WaitStep} (hf : S.tag .timerFire = true) (h : Steps S w0 w) :
    Steps S w0 (outerWait need steps w).2 := by
  induction steps generalizing need w with
  | nil => exact h
  | cons st rest ih =>
    cases st with
    | fire i =>
      unfold outerWait
      simp only
      split
      · exact steps_emit rfl hf h
      · exact ih (steps_emit rfl hf h)
    | ctl id src => exact h

theorem steps_replyCtl {ctl : Option Nat} {r : Reply} (hr : S.tag .reply = true) (h : Steps S w0 w) :
    Steps S w0 (replyCtl ctl r w) := by
  unfold replyCtl
  split
  · exact steps_emit rfl hr h
  · exact h

theorem steps_replyDuring {during : List (Nat × InstallSource)} (hr : S.tag .reply = true) (h : Steps S w0 w) :
    Steps S w0 (replyDuring during w) :=
  steps_foldl (fun _ => steps_emit rfl hr) during h

theorem steps_afterCheck {u : UnitEnv} {opts : InstallSource} {reboot : Option Bool} (hc : S.has tReboot)
    (hi : S.tag (.stateEv .idle) = true) (hw : S.tag (.stateEv .waitingForReboot) = true) (ho : S.outer = true)
    (hB : ∀ b, S.req b) (h : Steps S w0 w) : Steps S w0 (afterCheck u opts reboot w).2 := by
  have h1 := steps_waitForReboot (opts := opts) (u := u) hc ho hB (steps_yield (e := .state .waitingForReboot) hw h)
  -- The check left the model, or needs no reboot; otherwise `e` says how the wait for the reboot ended:
  -- outside the model, with the script over, with the reboot.
  fun_cases afterCheck u opts reboot w
  next => exact h
  next => exact steps_yield hi h
  next e => rwa [e] at h1
  next e => rwa [e] at h1
  next e =>
    rw [e] at h1
    exact steps_yield hi h1

/-- From here on everything may be logged and any request sent. -/
theorem steps_decideAndCheck {u : UnitEnv} {opts : InstallSource} {ctl : Option Nat} (hall : ∀ t, S.tag t = true)
    (ho : S.outer = true) (hB : ∀ b, S.req b) (h : Steps S w0 w) : Steps S w0 (decideAndCheck u opts ctl w).2 := by
  unfold decideAndCheck
  simp only
  have h0 : Steps S w0 (emit (.policyAllowed w.apps w.ctx.sched w.ctx.st opts u.allow) w) := steps_emit rfl (hall _) h
  generalize emit (.policyAllowed w.apps w.ctx.sched w.ctx.st opts u.allow) w = x at h0
  have pos : ∀ params, Steps S w0 (afterCheck u (upgradeOpts u.during opts)
      (startUpdateCheck params (replyDuring u.during (replyCtl ctl .started x))).1
      (startUpdateCheck params (replyDuring u.during (replyCtl ctl .started x))).2).2 := fun params =>
    steps_afterCheck (fun _ _ => hall _) (hall _) (hall _) ho hB
      (steps_startUpdateCheck (fun _ _ => hall _) (hall _) (hall _) ho (fun _ _ => hB _)
        (steps_replyDuring (hall _) (steps_replyCtl (hall _) h0)))
  cases u.allow with
  | tooSoon => exact steps_replyCtl (hall _) h0
  | throttled => exact steps_replyCtl (hall _) h0
  | denied => exact steps_replyCtl (hall _) h0
  | ok params => exact pos params
  | okUpdateDeferred params => exact pos params

theorem steps_runUnit {u : UnitEnv} {rs : RunState} (hall : ∀ t, S.tag t = true) (ho : S.outer = true)
    (hB : ∀ b, S.req b) (h : Steps S w0 w) : Steps S w0 (runUnit u rs w).2.2 := by
  unfold runUnit
  simp only
  -- the innermost step installs the unit's script (`env := u.env`), which `Frame` forbids: it needs `S.outer = true`
  have h4 : Steps S w0 (tick u.wakeDt (outerWait (armWait u.next (updateNext u.next (waitedStep rs { w with env := u.env, nTimer := 0 }).2)).1 u.wake
      (armWait u.next (updateNext u.next (waitedStep rs { w with env := u.env, nTimer := 0 }).2)).2).2) :=
    steps_tick (steps_outerWait (hall _) (steps_armWait (hall _) (steps_updateNext (hall _) (hall _)
      (steps_waitedStep (hall _) (hall _)
        (.quiet h ⟨rfl, rfl, rfl, rfl, Nat.le_refl _⟩ fun h => absurd (ho.symm.trans h) (by decide))))))
  generalize tick u.wakeDt _ = y at h4
  split
  · exact h4
  · exact steps_decideAndCheck hall ho hB h4
  · exact steps_decideAndCheck hall ho hB h4

theorem steps_runUnits {us : List UnitEnv} {rs : RunState} (hall : ∀ t, S.tag t = true) (ho : S.outer = true)
    (hB : ∀ b, S.req b) (h : Steps S w0 w) : Steps S w0 (runUnits us rs w).2.2 := by
  induction us generalizing rs w with
  | nil => exact h
  | cons u rest ih =>
    rw [runUnits_cons]
    split
    · exact ih (steps_runUnit hall ho hB h)
    · exact steps_runUnit hall ho hB h

end Omaha.SM
