/-
C07 — Server-dictated poll interval (X-Retry-After) is honoured.
-/
import Omaha.Lemmas.SMChain
import Omaha.Lemmas.Dec
import Omaha.Props.C08

namespace Omaha.SM

open Omaha

/-- **retry_after_spec.** The poll interval is `min(N, 86400)` seconds exactly when the header is
present, consists of visible ASCII and is a plain decimal u64 `N` (Rust's `u64::from_str`: an
optional `+`, one or more digits, at most 2⁶⁴−1); it is absent otherwise. -/
theorem retry_after_spec (h : Option Bytes) (p : Nat) :
    parseRetryAfter h = some p ↔
      ∃ raw n, h = some raw ∧ raw.all Cup.visible = true ∧ Dec.parseU64 raw = some n ∧
        p = min n 86400 * 1000000000 := by
  cases h with
  | none => simp [parseRetryAfter]
  | some raw =>
    simp only [parseRetryAfter, Option.some.injEq, exists_and_left, exists_eq_left']
    cases raw.all Cup.visible
    · simp
    · simp only [if_true, Option.map_eq_some_iff, true_and, @eq_comm _ p]

theorem retry_after_none (h : Option Bytes) :
    parseRetryAfter h = none ↔
      h = none ∨ ∃ raw, h = some raw ∧ (raw.all Cup.visible = false ∨ Dec.parseU64 raw = none) := by
  cases h with
  | none => simp [parseRetryAfter]
  | some raw =>
    simp only [parseRetryAfter, Option.some.injEq, exists_eq_left', reduceCtorEq, false_or]
    cases raw.all Cup.visible <;> simp

/-- The value never exceeds 24 hours. -/
theorem retry_after_le_day (h : Option Bytes) (p : Nat) (hp : parseRetryAfter h = some p) :
    p ≤ 86400 * 1000000000 := by
  obtain ⟨raw, n, _, _, _, rfl⟩ := (retry_after_spec h p).1 hp
  have : min n 86400 ≤ 86400 := Nat.min_le_right _ _
  exact Nat.mul_le_mul_right _ this

/-- The accepted grammar, written out. -/
theorem retry_after_grammar (raw : Bytes) (n : Nat) :
    Dec.parseU64 raw = some n ↔
      ∃ body, (raw = body ∨ raw = 43 :: body) ∧ body ≠ [] ∧ (∀ b ∈ body, Dec.isDigit b) ∧
        Dec.valueOf body = n ∧ n ≤ 18446744073709551615 :=
  Dec.parseUnsigned_eq_some_iff Dec.u64Max raw n

theorem applyPoll_poll (p : Option Nat) (w : World) : (applyPoll p w).ctx.st.poll = p := by
  unfold applyPoll
  split
  · rw [← (inv_storeOp_ _ _).ctx, ← (inv_persistCtx _).ctx]
    rfl
  · rename_i h
    exact Decidable.of_not_not h

/-- **poll_after_response.** After a response that is authenticated (or when no CUP handler is
configured), for any HTTP status, the context's poll interval is what the header says. -/
theorem poll_after_response (w : World) (status : Nat) (ra : Option Bytes) (body : Bytes) (auth : Bool)
    (dt : Clock) (hauth : w.cup = none ∨ auth = true) :
    (handleOutcome (.response status ra body auth dt) w).2.ctx.st.poll = parseRetryAfter ra := by
  rw [handleOutcome_response, if_neg (by rcases hauth with h | h <;> simp [h])]
  exact applyPoll_poll _ _

/-- **poll_unchanged_no_response.** A transport failure, and a response that fails
authentication, leave the whole context, the apps and the store untouched. -/
theorem no_response_no_change (w : World) (o : HttpOutcome)
    (h : (∃ k dt, o = .fail k dt) ∨ (∃ st ra body dt, o = .response st ra body false dt ∧ w.cup.isSome)) :
    (handleOutcome o w).2.ctx = w.ctx ∧ (handleOutcome o w).2.apps = w.apps ∧
    (handleOutcome o w).2.store = w.store ∧ (handleOutcome o w).2.trace = w.trace := by
  rcases h with ⟨k, dt, rfl⟩ | ⟨st, ra, body, dt, rfl, hc⟩
  · exact ⟨rfl, rfl, rfl, rfl⟩
  · rw [handleOutcome_response, if_pos ⟨hc, rfl⟩]
    exact ⟨rfl, rfl, rfl, rfl⟩

/-- **poll_change_announced_committed.** When the value changes, the very next actions are: the
protocol-state event carrying the new value, the three context writes (the poll key is written as
whole microseconds, or removed when absent), and a commit — before the flow continues.  When it
does not change, nothing is emitted. -/
theorem poll_change_announced (p : Option Nat) (w : World) (hne : w.ctx.st.poll ≠ p) :
    ∃ o1 o2 o3 o4 op1 op3,
      (applyPoll p w).trace =
        [.storage .commit o4, .storage op3 o3,
         .storage (optOp kPoll (p.map fun ns => ((ns / 1000 : Nat) : Int))) o2,
         .storage op1 o1, .event (.protocol { w.ctx.st with poll := p })] ++ w.trace := by
  unfold applyPoll
  rw [if_pos hne]
  simp only [storeOp_, persistCtx_eq, ctxOps, storeOps, List.foldl, storeOp_trace]
  exact ⟨_, _, _, _, _, _, rfl⟩

theorem poll_same_silent (p : Option Nat) (w : World) (h : w.ctx.st.poll = p) : applyPoll p w = w := by
  simp [applyPoll, h]

/-- The poll interval after a sequence of exchange outcomes, as a fold: each authenticated
response sets it from its header, every other outcome keeps it. -/
def pollAfter (cupOn : Bool) : Option Nat → List HttpOutcome → Option Nat
  | p, [] => p
  | p, .fail _ _ :: rest => pollAfter cupOn p rest
  | p, .response _ ra _ auth _ :: rest =>
    if cupOn && !auth then pollAfter cupOn p rest else pollAfter cupOn (parseRetryAfter ra) rest

def handleAll : List HttpOutcome → World → World
  | [], w => w
  | o :: rest, w => handleAll rest (handleOutcome o w).2

/-- **poll_latest_wins.** -/
theorem poll_latest_wins (os : List HttpOutcome) (w : World) :
    (handleAll os w).ctx.st.poll = pollAfter w.cup.isSome w.ctx.st.poll os := by
  induction os generalizing w with
  | nil => rfl
  | cons o rest ih =>
    rw [handleAll, ih, (frame_of_steps (steps_handleOutcome rfl rfl (.refl w))).cup]
    cases o with
    | fail k dt => rw [(no_response_no_change w _ (.inl ⟨k, dt, rfl⟩)).1]; rfl
    | response st ra body auth dt =>
      rw [pollAfter]
      cases hc : w.cup with
      | none => rw [poll_after_response w st ra body auth dt (.inl hc)]; rfl
      | some key =>
        cases auth with
        | true => rw [poll_after_response w st ra body true dt (.inr rfl)]; rfl
        | false => rw [(no_response_no_change w _ (.inr ⟨st, ra, body, dt, rfl, by rw [hc]; rfl⟩)).1]; rfl

theorem loadCtx_poll (st : Store) : (loadCtx st).st.poll = loadPoll (st.getInt kPoll) := rfl

theorem getInt_head (k : Bytes) (i : Int) (rest : List (Bytes × SVal)) :
    (Store.mk [] ((k, .int i) :: rest)).getInt k = some i := by
  unfold Store.getInt Store.get lookup lookup
  rw [if_pos rfl]

/-- **poll_restart.** The microsecond encoding written by `persistCtx` for a header value
(`min(N, 86400)` s in ns, divided by 1000) is read back exactly by `loadCtx`: a restarted state
machine starts from the stored value.  Stated for a store with nothing pending and the poll key at the head
of the committed map. -/
theorem poll_restart (n : Nat) (rest : List (Bytes × SVal)) :
    (loadCtx ⟨[], (kPoll, .int (((min n 86400 * 1000000000) / 1000 : Nat) : Int)) :: rest⟩).st.poll
      = some (min n 86400 * 1000000000) := by
  rw [loadCtx_poll, getInt_head]
  -- whole seconds are whole microseconds, and a day of them fits `u64`
  exact loadPoll_written (some (min n 86400 * 1000000000)) fun x hx => by cases hx; omega

theorem poll_restart_absent (st : Store) (h : st.getInt kPoll = none) : (loadCtx st).st.poll = none := by
  rw [loadCtx_poll, h]
  rfl

/-! ### Non-vacuity -/

example : parseRetryAfter (some [52, 50, 57, 52, 57, 54, 55, 50, 57, 54]) = some 86400000000000 := by decide +kernel  -- "4294967296"
example : parseRetryAfter (some [43, 55]) = some 7000000000 := by decide        -- "+7"
example : parseRetryAfter (some [32, 53]) = none := by decide                   -- " 5"
example : pollAfter true (some 5) [.response 500 (some [49]) [] true ⟨0, 0⟩, .response 200 none [] false ⟨0, 0⟩, .fail .transport ⟨0, 0⟩]
    = some 1000000000 := by decide

end Omaha.SM
