/-
C17 — Mock Omaha server conforms to the client it doubles for.

About `Omaha.Mock` (the model of mock-omaha-server's `handle_request`) against the client-side
models `Omaha.Resp` (response decoding) and `Omaha.Cup` (CUP verification).
-/
import Omaha.Mock
import Omaha.Props.C16
import Omaha.Props.C01

namespace Omaha.Mock

open Omaha.Resp Omaha.JsonP

def appIdOf : Val → Option Bytes
  | .obj ((_, .str id) :: _) => some id
  | _ => none

theorem appVal_shape (cfg : Cfg) (a : ReqApp) (v : Val) (h : appVal cfg a = some v) :
    ∃ m, lookup a.id cfg.responses = some m ∧
      v = appObj a.id (match a.updateCheck with | some _ => some (updateCheckVal m) | none => none) := by
  unfold appVal at h
  split at h
  · cases h
  · refine ⟨_, ‹_›, ?_⟩
    split at h
    · cases h
    · split at h <;> split at h <;> cases h <;> simp only [*]

theorem appVal_id (cfg : Cfg) (a : ReqApp) (v : Val) (h : appVal cfg a = some v) : appIdOf v = some a.id := by
  obtain ⟨m, _, hv⟩ := appVal_shape cfg a v h
  rw [hv]; rfl

theorem appVals_induction {cfg : Cfg} {P : List ReqApp → List Val → Prop} (nil : P [] [])
    (cons : ∀ a rest v rs, appVal cfg a = some v → appVals cfg rest = some rs → P rest rs → P (a :: rest) (v :: rs))
    (apps : List ReqApp) (vs : List Val) (h : appVals cfg apps = some vs) : P apps vs := by
  fun_induction appVals cfg apps generalizing vs with
  | case1 => cases h; exact nil
  | case2 a rest v rs hr hv ih => cases h; exact cons a rest v rs hv hr (ih rs hr)
  | case3 => cases h

/-- **mock_apps_in_order.** When the server answers, its document lists one app per requested app,
in request order, with the requested id. -/
theorem mock_apps_in_order (cfg : Cfg) (apps : List ReqApp) (vs : List Val) (h : appVals cfg apps = some vs) :
    vs.map appIdOf = apps.map fun a => some a.id := by
  refine appVals_induction (P := fun apps vs => vs.map appIdOf = apps.map fun a => some a.id) rfl ?_ apps vs h
  intro a rest v rs hv _ ih
  rw [List.map_cons, List.map_cons, appVal_id cfg a v hv, ih]

/-! ### The client's parser accepts the document

The server's objects are fixed documents with a few variable leaves: the client's decoder is
evaluated on them. -/

def mockCohort : Cohort := ⟨some (s "1:1:"), some (s "integration-test"), some (s "integration-test")⟩

def offerDecoded (codebase pkg : Bytes) (urgent : Bool) : UpdateCheck :=
  { status := .ok, info := none, urls := some [codebase],
    manifest := some { version := s "0.1.2.3",
                       actions := [{ event := some (s "install"), run := some pkg, extras := [] },
                                   { event := some (s "postinstall"), run := none, extras := [] }],
                       packages := [{ name := pkg, required := true, size := none, hash := none, hashSha256 := none,
                                      fp := s "2.0.1.2.3", extras := [] }] },
    extras := if urgent then [(s "_urgent_update", .bool true)] else [] }

theorem decode_offer (codebase pkg : Bytes) (urgent : Bool) :
    decodeUpdateCheck (offer codebase pkg urgent) = .ok (offerDecoded codebase pkg urgent) :=
  match urgent with
  | false => rfl
  | true => rfl

theorem decode_noupdate :
    decodeUpdateCheck (.obj [(s "status", .str (s "noupdate"))]) =
      .ok { status := .noUpdate, info := none, urls := none, manifest := none, extras := [] } := by rfl

/-- The "invalid response" the server can be configured to send is one the client must reject: its
update check has no `status`. -/
theorem decode_invalid : decodeUpdateCheck (.obj [(s "invalid_status", .str (s "invalid"))]) = .err := by rfl

/-- The update check the client decodes for a configured response kind (`none`: it must reject). -/
def ucDecoded (m : RespMeta) : Option UpdateCheck :=
  match m.kind with
  | .update => some (offerDecoded m.codebase m.packageName false)
  | .urgentUpdate => some (offerDecoded m.codebase m.packageName true)
  | .noUpdate => some { status := .noUpdate, info := none, urls := none, manifest := none, extras := [] }
  | .invalidResponse => none
  | .invalidURL => some (offerDecoded (s "http://integration.test.fuchsia.com/") m.packageName false)

theorem decode_updateCheckVal (m : RespMeta) :
    decodeUpdateCheck (updateCheckVal m) = (match ucDecoded m with | some u => .ok u | none => .err) := by
  unfold updateCheckVal ucDecoded
  cases m.kind <;> simp only [decode_offer, decode_noupdate, decode_invalid]

theorem decodeApp_appObj_none (id : Bytes) :
    decodeApp (appObj id none) =
      .ok { id := id, status := .ok, cohort := mockCohort, ping := none, updateCheck := none, events := none, extras := [] } := by rfl

theorem decodeApp_appObj_some (id : Bytes) (o : List (Bytes × Val)) :
    decodeApp (appObj id (some (.obj o))) =
      ((decodeUpdateCheck (.obj o)).bind fun uc => .ok (some uc)).bind fun uc =>
        .ok { id := id, status := .ok, cohort := mockCohort, ping := none, updateCheck := uc, events := none, extras := [] } := by rfl

theorem updateCheckVal_obj (m : RespMeta) : ∃ o, updateCheckVal m = .obj o := by
  unfold updateCheckVal offer
  cases m.kind <;> exact ⟨_, rfl⟩

def appDecoded (m : RespMeta) (a : ReqApp) : Option Resp.App :=
  match a.updateCheck with
  | none => some { id := a.id, status := .ok, cohort := mockCohort, ping := none, updateCheck := none, events := none, extras := [] }
  | some _ =>
    (ucDecoded m).map fun uc =>
      { id := a.id, status := .ok, cohort := mockCohort, ping := none, updateCheck := some uc, events := none, extras := [] }

theorem appDecoded_id {m : RespMeta} {a : ReqApp} {x : Resp.App} (h : appDecoded m a = some x) : x.id = a.id := by
  unfold appDecoded at h
  split at h
  · cases h; rfl
  · obtain ⟨uc, -, rfl⟩ := Option.map_eq_some_iff.1 h; rfl

/-- **client_accepts_mock_doc (per app).** Whatever the server answers for an app, the client's
decoder accepts it field for field — except the deliberately invalid kind, which it rejects. -/
theorem decode_appVal (cfg : Cfg) (a : ReqApp) (v : Val) (h : appVal cfg a = some v) :
    ∃ m, lookup a.id cfg.responses = some m ∧
      decodeApp v = (match appDecoded m a with | some x => .ok x | none => .err) := by
  obtain ⟨m, hm, hv⟩ := appVal_shape cfg a v h
  refine ⟨m, hm, ?_⟩
  rw [hv]
  unfold appDecoded
  cases a.updateCheck with
  | none => exact decodeApp_appObj_none a.id
  | some d =>
    obtain ⟨o, ho⟩ := updateCheckVal_obj m
    simp only [ho, decodeApp_appObj_some]
    rw [← ho, decode_updateCheckVal]
    cases ucDecoded m <;> rfl

theorem decodeWrapper_responseVal (vs : List Val) :
    decodeWrapper (responseVal vs) =
      (mapR decodeApp vs).bind fun apps => .ok ⟨s "3.0", some (s "prod"), some ⟨some 4775, some 48810⟩, apps⟩ := by rfl

/-- **client_accepts_mock_doc (document).** The wrapper, protocol, server, daystart and app list of
the server's document decode; the result has the apps the per-app decoder gives, in order. -/
theorem decode_responseVal (vs : List Val) (apps : List Resp.App) (h : mapR decodeApp vs = .ok apps) :
    decodeWrapper (responseVal vs) =
      .ok { protocol := s "3.0", server := some (s "prod"),
            daystart := some { elapsedDays := some 4775, elapsedSeconds := some 48810 }, apps := apps } := by
  rw [decodeWrapper_responseVal, h]; rfl

/-- When no requested app is configured with the invalid kind (or the request carries no update
checks), the whole document is accepted and lists exactly the requested apps in request order with
the configured decisions. -/
theorem client_accepts_mock_doc (cfg : Cfg) (apps : List ReqApp) (vs : List Val) (h : appVals cfg apps = some vs)
    (hvalid : ∀ a ∈ apps, ∀ m, lookup a.id cfg.responses = some m → (appDecoded m a).isSome) :
    ∃ ras, decodeWrapper (responseVal vs) =
        .ok { protocol := s "3.0", server := some (s "prod"),
              daystart := some { elapsedDays := some 4775, elapsedSeconds := some 48810 }, apps := ras } ∧
      ras.map (·.id) = apps.map (·.id) ∧
      ∀ p ∈ ras.zip apps, ∃ m, lookup p.2.id cfg.responses = some m ∧ appDecoded m p.2 = some p.1 := by
  suffices key : ∃ ras, mapR decodeApp vs = .ok ras ∧ ras.map (·.id) = apps.map (·.id) ∧
      ∀ p ∈ ras.zip apps, ∃ m, lookup p.2.id cfg.responses = some m ∧ appDecoded m p.2 = some p.1 by
    obtain ⟨ras, h1, h2, h3⟩ := key
    exact ⟨ras, decode_responseVal vs ras h1, h2, h3⟩
  revert hvalid
  refine appVals_induction (P := fun apps vs => (∀ a ∈ apps, ∀ m, lookup a.id cfg.responses = some m → (appDecoded m a).isSome) →
    ∃ ras, mapR decodeApp vs = .ok ras ∧ ras.map (·.id) = apps.map (·.id) ∧
      ∀ p ∈ ras.zip apps, ∃ m, lookup p.2.id cfg.responses = some m ∧ appDecoded m p.2 = some p.1)
    (fun _ => ⟨[], rfl, rfl, by simp⟩) ?_ apps vs h
  intro a rest v rs hv _ ih hvalid
  obtain ⟨ras, h1, h2, h3⟩ := ih fun x hx => hvalid x (List.mem_cons_of_mem _ hx)
  obtain ⟨m, hm, hd⟩ := decode_appVal cfg a v hv
  obtain ⟨x, hx⟩ := Option.isSome_iff_exists.1 (hvalid a List.mem_cons_self m hm)
  rw [hx] at hd
  refine ⟨x :: ras, by rw [mapR, hd, h1]; rfl, by rw [List.map_cons, List.map_cons, appDecoded_id hx, h2], ?_⟩
  intro p hp
  rcases List.mem_cons.1 hp with rfl | hp
  · exact ⟨m, hm, hx⟩
  · exact h3 p hp

/-- **mock_digest_eq_client.** For the cup2key value the client appends (`<key id>:<nonce hex>`),
the digest the server signs is the transaction hash the client verifies against — for every hash
function. -/
theorem mock_digest_eq_client (C : Cup.Crypto) (reqBody respBody : Bytes) (kid : Nat) (nonce : Bytes) :
    digest C reqBody respBody (Cup.cup2key kid nonce) = Cup.txHash C reqBody respBody kid nonce := rfl

/-- The server signs with the key whose id the request names, when it holds it — as latest or as
any historical key — and only then. -/
theorem holdsKey_iff (cfg : Cfg) (id : Nat) : holdsKey cfg id = true ↔ id = cfg.latest ∨ id ∈ cfg.historical := by
  rw [holdsKey, Bool.or_eq_true, decide_eq_true_eq, List.contains_iff_mem, eq_comm]

theorem inducedEtag_signed (cfg : Cfg) (uri : Bytes) (id : Nat) (v : Bytes) (h : inducedEtag cfg uri = .signed id v) :
    cup2keyOf uri = some v ∧ holdsKey cfg id = true ∧ ∃ idText rest, Cup.splitOnce 58 v = some (idText, rest) ∧ Dec.parseU64 idText = some id := by
  revert h
  -- of the six branches of `inducedEtag` only the fifth signs
  fun_cases inducedEtag cfg uri with
  | case5 _ w hc idText rest hs i hp hk =>
    intro h
    cases h
    exact ⟨hc, hk, idText, rest, hs, hp⟩
  | _ => nofun

theorem hex_decode_encode (b : Bytes) : Hex.decode (Hex.encode b) = some b := Hex.decode_encode b

/-- The ETag the server sends: `hex(der signature) ":" hex(sha256(request body))`. -/
def etagText (sig reqHash : Bytes) : Bytes := Hex.encode sig ++ 58 :: Hex.encode reqHash

theorem etagText_chars (sig h : Bytes) : ∀ c ∈ etagText sig h, (48 ≤ c.toNat ∧ c.toNat ≤ 58) ∨ (97 ≤ c.toNat ∧ c.toNat ≤ 102) := by
  intro c hc
  unfold etagText at hc
  simp only [List.mem_append, List.mem_cons] at hc
  rcases hc with hc | rfl | hc
  · rcases Hex.encode_chars sig c hc with h1 | h1
    · exact Or.inl ⟨h1.1, Nat.le_succ_of_le h1.2⟩
    · exact Or.inr h1
  · exact Or.inl ⟨by decide, by decide⟩
  · rcases Hex.encode_chars h c hc with h1 | h1
    · exact Or.inl ⟨h1.1, Nat.le_succ_of_le h1.2⟩
    · exact Or.inr h1

/-- **client_verifies_mock_etag.** If the request's cup2key is the client's own (`kid:hex(nonce)`),
the server's DER signature over its digest is by the key pair registered with the client for `kid`,
and that signature verifies (the one cryptographic hypothesis: signatures made by a key pair verify
under its public key), then the client's verifier accepts the server's ETag
`hex(sig):hex(sha256(request))` for this exchange and returns that signature. -/
theorem client_verifies_mock_etag (C : Cup.Crypto) (keys : List (Nat × Cup.PubKey)) (pk : Cup.PubKey)
    (reqBody respBody nonce sig : Bytes) (kid r sv : Nat)
    (hkey : Cup.lookupKey keys kid = some pk) (hder : Der.decodeSig sig = some (r, sv))
    (hsig : C.ecdsaVerify pk (digest C reqBody respBody (Cup.cup2key kid nonce)) r sv = true) :
    Cup.verifyResponse C keys reqBody nonce (some (etagText sig (C.sha256 reqBody))) respBody kid = .ok sig := by
  rw [mock_digest_eq_client] at hsig
  apply (Cup.verify_iff C keys reqBody nonce _ respBody kid sig).2
  have hchars := etagText_chars sig (C.sha256 reqBody)
  have hvis : (etagText sig (C.sha256 reqBody)).all Cup.visible = true := by
    rw [List.all_eq_true]
    intro c hc
    unfold Cup.visible
    rcases hchars c hc with h | h <;> simp <;> omega
  have hlast : (etagText sig (C.sha256 reqBody)).getLast? ≠ some 34 := by
    intro hl
    have hm : (34 : UInt8) ∈ etagText sig (C.sha256 reqBody) := List.mem_of_getLast? hl
    rcases hchars 34 hm with h | h <;> simp at h
  refine ⟨etagText sig (C.sha256 reqBody), Hex.encode sig, Hex.encode (C.sha256 reqBody), r, sv, pk, rfl, hvis, ?_,
    hex_decode_encode _, hex_decode_encode _, hder, hkey, hsig⟩
  rw [Cup.stripEtag_plain _ hlast]
  exact (Cup.splitOnce_eq_some_iff 58 _ _ _).2 ⟨rfl, Hex.encode_no_colon sig⟩

/-- **for_no_other.** If the same ETag is accepted for two exchanges, the two signed messages are equal
or the signature is valid for two different messages; with an injective pre-image (C01's
`txPreimage_injective`) equal messages mean the same request hash, response hash, key id and nonce. -/
theorem etag_for_no_other (C : Cup.Crypto) (hlen : ∀ m, (C.sha256 m).length = 32)
    (req resp req' resp' nonce nonce' : Bytes) (kid kid' : Nat)
    (h : Cup.txPreimage C req resp kid nonce = Cup.txPreimage C req' resp' kid' nonce') :
    C.sha256 req = C.sha256 req' ∧ C.sha256 resp = C.sha256 resp' ∧ kid = kid' ∧ nonce = nonce' :=
  Cup.txPreimage_injective C hlen req resp req' resp' kid kid' nonce nonce' h

/-- **reconfigure_takes_effect.** After `set_responses_by_appid`, every later request is answered from
the new map only. -/
theorem setResponses_effect (cfg : Cfg) (m : List (Bytes × RespMeta)) (uri : Bytes) (apps : List ReqApp) :
    handle (setResponses cfg m) uri apps = handle { cfg with responses := m } uri apps := rfl

theorem setResponses_keeps_keys (cfg : Cfg) (m : List (Bytes × RespMeta)) :
    (setResponses cfg m).latest = cfg.latest ∧ (setResponses cfg m).historical = cfg.historical ∧
    (setResponses cfg m).etagOverride = cfg.etagOverride ∧ (setResponses cfg m).requireCup = cfg.requireCup :=
  ⟨rfl, rfl, rfl, rfl⟩


/-! ### Non-vacuity -/

def exCfg : Cfg :=
  { responses := [(s "app-b", { kind := .update, codebase := s "http://cb/", packageName := s "pkg" }),
                  (s "app-a", { kind := .noUpdate })],
    latest := 42, historical := [7] }

def exApps : List ReqApp :=
  [{ id := s "app-a", version := s "1.2.3.4", updateCheck := some false, cohort := none, hasEvent := false },
   { id := s "app-b", version := s "1.0.0.0", updateCheck := some false, cohort := none, hasEvent := false }]

example : (appVals exCfg exApps).map (·.map appIdOf) = some [some (s "app-a"), some (s "app-b")] := by decide +kernel

example : inducedEtag exCfg (s "/svc?x=1&cup2key=7:00ff") = .signed 7 (s "7:00ff") := by decide +kernel
example : inducedEtag exCfg (s "/svc?x=1&cup2key=8:00ff") = .none := by decide +kernel
example : inducedEtag exCfg (s "/") = .none := by decide

end Omaha.Mock
