/-
C11 — Every control request gets exactly one, truthful reply.

The schedule of an iteration of `run` fixes where each request arrives: during the outer wait
(`wake`), during the check (`during`) or during the reboot wait (`rebootSteps`).  `replies` is the
projection of the trace on the replies given; the theorems say it is exactly one reply per request
taken, with the value the property prescribes, for every schedule.
-/
import Omaha.Props.C05

namespace Omaha.SM

open Omaha

def πReply : Action → Option (Nat × Reply)
  | .reply id r => some (id, r)
  | _ => none

/-- Newest first. -/
def replies (w : World) : List (Nat × Reply) := proj πReply w

def NoReply (ok : Tag → Bool) : Prop := ok .reply = false

theorem replies_of_addsT {ok : Tag → Bool} (hq : NoReply ok) {w w' : World} (h : AddsT ok w w') : replies w' = replies w :=
  proj_of_addsT πReply h fun a ha => by
    cases a with
    | reply id r => exact absurd (hq.symm.trans ha) Bool.false_ne_true
    | _ => rfl

theorem replies_emit (a : Action) (w : World) : replies (emit a w) = (πReply a).toList ++ replies w := proj_emit _ _ _
theorem replies_tick (dt : Clock) (w : World) : replies (tick dt w) = replies w := rfl

def tCheckAll : Tag → Bool
  | .schedEv | .resultEv => true
  | .stateEv _ => true
  | t => tCheckBody t

theorem tCheckBody_le_all (t : Tag) (h : tCheckBody t = true) : tCheckAll t = true := by
  cases t with
  | schedEv | resultEv | stateEv => rfl
  | _ => exact h

theorem addsT_startUpdateCheck (params : RequestParams) (w : World) : AddsT tCheckAll w (startUpdateCheck params w).2 :=
  (steps_startUpdateCheck (S := ⟨tCheckAll, fun _ => True, true⟩) tCheckBody_le_all rfl rfl rfl (fun _ _ => trivial)
    (.refl w)).adds

theorem replies_startUpdateCheck (params : RequestParams) (w : World) :
    replies (startUpdateCheck params w).2 = replies w :=
  replies_of_addsT (ok := tCheckAll) rfl (addsT_startUpdateCheck params w)

def ctlId : WaitStep × Clock → Option Nat
  | (.ctl id _, _) => some id
  | _ => none

@[simp] theorem ctlId_fire (i : Nat) (dt : Clock) : ctlId (.fire i, dt) = none := rfl
@[simp] theorem ctlId_ctl (id : Nat) (src : InstallSource) (dt : Clock) : ctlId (.ctl id src, dt) = some id := rfl

/-- What a step of the reboot wait does besides its reply and its reboot question: it sees a timer
fire, pings, asks for the next timing, arms timers. -/
def tWaitRest : Tag → Bool
  | .timerFire | .timerArm | .pNext => true
  | t => tPing t

/-- A ping, as an induction over the reboot loop meets it. -/
theorem addsT_ping {w w' : World} {r : Option Unit} (h : pingOmaha w = (r, w')) : AddsT tWaitRest w w' := by
  have := (steps_pingOmaha (S := ⟨tWaitRest, fun _ => True, true⟩) rfl rfl rfl rfl rfl rfl (fun _ => trivial) (.refl w)).adds
  rwa [h] at this

/-- Asking for the next timing and arming the wait for it, in the same form. -/
theorem addsT_rearm {t : Timing} {w w' : World} {need : List Nat} (h : armWait t (updateNext t w) = (need, w')) :
    AddsT tWaitRest w w' := by
  have := (steps_armWait (S := { tag := tWaitRest }) (t := t) rfl (steps_updateNext (t := t) rfl rfl (.refl w))).adds
  rwa [h] at this

theorem replies_waitRest {w w' : World} (h : AddsT tWaitRest w w') : replies w' = replies w :=
  replies_of_addsT (ok := tWaitRest) rfl h

/-- The step of the induction in `rebootLoop_replies`: the step's own reply (if it is a request) comes
first, and the rest of the wait answers the requests among `k` further steps. -/
theorem replies_step {sd : WaitStep × Clock} {rest : List (WaitStep × Clock)} {r0 r1 r : List (Nat × Reply)}
    {res : Option Bool} (h1 : r1 = ((ctlId sd).map fun id => (id, Reply.alreadyRunning)).toList ++ r0)
    (h : ∃ k, k ≤ rest.length ∧
      r = (((rest.take k).filterMap ctlId).map fun id => (id, Reply.alreadyRunning)).reverse ++ r1 ∧
      (res = some false → k = rest.length)) :
    ∃ k, k ≤ (sd :: rest).length ∧
      r = ((((sd :: rest).take k).filterMap ctlId).map fun id => (id, Reply.alreadyRunning)).reverse ++ r0 ∧
      (res = some false → k = (sd :: rest).length) := by
  obtain ⟨k, hk, hr, hs⟩ := h
  refine ⟨k + 1, Nat.succ_le_succ hk, ?_, fun h => congrArg (· + 1) (hs h)⟩
  rw [hr, h1, List.take_succ_cons, List.filterMap_cons]
  cases ctlId sd <;> simp

/-- **reply_exactly_once (reboot wait).** The loop consumes a prefix of the scripted steps; every
request in that prefix gets exactly one reply, AlreadyRunning, in arrival order; nobody else gets
one. -/
theorem rebootLoop_replies (opts : InstallSource) (t30 : Nat) (pingNeed : List Nat) (steps : List (WaitStep × Clock))
    (answers : List Bool) (nexts : List Timing) (w : World) :
    ∃ k, k ≤ steps.length ∧
      replies (rebootLoop opts t30 pingNeed steps answers nexts w).2 =
        (((steps.take k).filterMap ctlId).map fun id => (id, Reply.alreadyRunning)).reverse ++ replies w ∧
      ((rebootLoop opts t30 pingNeed steps answers nexts w).1 = some false → k = steps.length) := by
  -- The cases, in the order of the loop's body: the script is over; the 30-minute timer (reboot allowed, refused);
  -- the last ping timer (the ping leaves the model, the ping); another timer; an on-demand request (allowed,
  -- refused); a scheduled request.  A step that ends the wait consumes nothing of the rest (`k = 0` there).
  fun_induction rebootLoop opts t30 pingNeed steps answers nexts w
  next => exact ⟨0, Nat.le_refl _, rfl, fun _ => rfl⟩
  next => exact replies_step rfl ⟨0, Nat.zero_le _, rfl, nofun⟩
  next ih => exact replies_step rfl ih
  next hp => exact replies_step ((replies_waitRest (addsT_ping hp)).trans rfl) ⟨0, Nat.zero_le _, rfl, nofun⟩
  next harm hp ih =>
    exact replies_step ((replies_waitRest (addsT_rearm harm)).trans ((replies_waitRest (addsT_ping hp)).trans rfl)) ih
  next ih => exact replies_step rfl ih
  next => exact replies_step rfl ⟨0, Nat.zero_le _, rfl, nofun⟩
  next ih => exact replies_step rfl ih
  next ih => exact replies_step rfl ih

def RebootReplies (steps : List (WaitStep × Clock)) (rs : List (Nat × Reply)) : Prop :=
  ∃ k, k ≤ steps.length ∧ rs = (((steps.take k).filterMap ctlId).map fun id => (id, Reply.alreadyRunning)).reverse

/-- `rebootLoop_replies` from any world that has the replies of `w0`, in the form the functions around
the loop pass on. -/
theorem rebootLoop_replies_from {opts : InstallSource} {t30 : Nat} {pingNeed : List Nat} {steps : List (WaitStep × Clock)}
    {answers : List Bool} {nexts : List Timing} {w w0 : World} (h0 : replies w = replies w0) :
    ∃ rs, RebootReplies steps rs ∧ replies (rebootLoop opts t30 pingNeed steps answers nexts w).2 = rs ++ replies w0 :=
  let ⟨k, hk, hr, _⟩ := rebootLoop_replies opts t30 pingNeed steps answers nexts w
  ⟨_, ⟨k, hk, rfl⟩, h0 ▸ hr⟩

theorem rebootWait_replies (opts : InstallSource) (u : UnitEnv) (w : World) :
    ∃ rs, RebootReplies u.rebootSteps rs ∧ replies (rebootWait opts u w).2 = rs ++ replies w := by
  unfold rebootWait
  simp only
  split
  · exact ⟨[], ⟨0, Nat.zero_le _, rfl⟩, rfl⟩
  · exact rebootLoop_replies_from (replies_of_addsT (ok := (· != .reply)) rfl
      (steps_armWait (S := { tag := (· != .reply) }) rfl (steps_updateNext rfl rfl (steps_nTimer (steps_emit rfl rfl
        (steps_emit rfl rfl (.refl w)))))).adds)

theorem replies_doReboot (u : UnitEnv) (p : Option Bool × World) : replies (doReboot u p).2 = replies p.2 := by
  unfold doReboot
  split <;> rfl

theorem waitForReboot_replies (opts : InstallSource) (u : UnitEnv) (w : World) :
    ∃ rs, RebootReplies u.rebootSteps rs ∧ replies (waitForReboot opts u w).2 = rs ++ replies w := by
  unfold waitForReboot
  rw [replies_doReboot]
  exact rebootWait_replies opts u w

theorem afterCheck_replies (u : UnitEnv) (opts : InstallSource) (reboot : Option Bool) (w : World) :
    ∃ rs, (reboot = some true → RebootReplies u.rebootSteps rs) ∧ (reboot ≠ some true → rs = []) ∧
      replies (afterCheck u opts reboot w).2 = rs ++ replies w := by
  unfold afterCheck
  match reboot with
  | none => exact ⟨[], nofun, fun _ => rfl, rfl⟩
  | some false => exact ⟨[], nofun, fun _ => rfl, rfl⟩
  | some true =>
    obtain ⟨rs, hrs, hr⟩ := waitForReboot_replies opts u (yieldEv (.state .waitingForReboot) w)
    refine ⟨rs, fun _ => hrs, fun h => absurd rfl h, ?_⟩
    simp only
    generalize waitForReboot opts u _ = p at hr ⊢
    match p with
    | (none, _) | (some false, _) | (some true, _) => exact hr

theorem replyDuring_replies (during : List (Nat × InstallSource)) (w : World) :
    replies (replyDuring during w) = (during.map fun d => (d.1, Reply.alreadyRunning)).reverse ++ replies w :=
  proj_foldl_emit πReply (fun d : Nat × InstallSource => .reply d.1 .alreadyRunning) _ (fun _ => rfl) during w

theorem replyCtl_replies (ctl : Option Nat) (r : Reply) (w : World) :
    replies (replyCtl ctl r w) = (ctl.map fun id => (id, r)).toList ++ replies w := by
  cases ctl <;> rfl

def CheckDecision.positive : CheckDecision → Bool
  | .ok _ | .okUpdateDeferred _ => true
  | _ => false

/-- **reply_exactly_once / reply_truthful (one iteration of `run`).** For every schedule:
* the request that ended the outer wait (if any) gets exactly one reply — Started when the policy
  allowed the check, Throttled when it refused;
* every request arriving during the check gets exactly one reply, AlreadyRunning;
* every request taken while waiting to reboot gets exactly one reply, AlreadyRunning;
* and there are no other replies. -/
theorem decideAndCheck_replies (u : UnitEnv) (opts : InstallSource) (ctl : Option Nat) (w : World) :
    ∃ rs, replies (decideAndCheck u opts ctl w).2 =
        rs ++ (if u.allow.positive then (u.during.map fun d => (d.1, Reply.alreadyRunning)).reverse else []) ++
          (ctl.map fun id => (id, if u.allow.positive then Reply.started else Reply.throttled)).toList ++ replies w ∧
      (rs = [] ∨ (u.allow.positive = true ∧ RebootReplies u.rebootSteps rs)) := by
  cases hd : u.allow with
  | tooSoon | throttled | denied =>
    have e : (decideAndCheck u opts ctl w).2 =
        replyCtl ctl .throttled (emit (.policyAllowed w.apps w.ctx.sched w.ctx.st opts u.allow) w) := by
      unfold decideAndCheck
      rw [hd]
    exact ⟨[], by rw [e, replyCtl_replies]; rfl, .inl rfl⟩
  | ok params | okUpdateDeferred params =>
    rw [run_check_uses_policy_params u opts ctl w params (by simp [hd])]
    generalize hx : replyDuring u.during (replyCtl ctl .started _) = x
    obtain ⟨rs, h1, h2, h3⟩ := afterCheck_replies u (upgradeOpts u.during opts) (startUpdateCheck params x).1
      (startUpdateCheck params x).2
    refine ⟨rs, ?_, ?_⟩
    · rw [h3, replies_startUpdateCheck, ← hx, replyDuring_replies,
        replyCtl_replies]
      simp only [List.append_assoc]
      rfl
    · by_cases hb : (startUpdateCheck params x).1 = some true
      · exact .inr ⟨rfl, h1 hb⟩
      · exact .inl (h2 hb)

/-- Nothing before the decision replies to anybody (the request that ends the wait is answered only
after the policy has decided). -/
theorem noReply_before_decision : NoReply (fun t => tInert t && t != .reply) := rfl

/-- An on-demand request during the check makes the reboot question on-demand; scheduled ones do not. -/
theorem upgradeOpts_spec (during : List (Nat × InstallSource)) (opts : InstallSource) :
    upgradeOpts during opts = if ∃ d ∈ during, d.2 = .onDemand then .onDemand else opts := by
  simp only [upgradeOpts, List.any_eq_true, beq_iff_eq]

/-- **ondemand_upgrade.** An on-demand request during the reboot wait is answered AlreadyRunning,
asks the policy at once with on-demand options — rebooting iff it agrees — and from then on the
wait's own options are on-demand. -/
theorem rebootLoop_ondemand_ctl (opts : InstallSource) (t30 : Nat) (pingNeed : List Nat) (id : Nat) (dt : Clock)
    (rest : List (WaitStep × Clock)) (answers : List Bool) (nexts : List Timing) (w : World) :
    rebootLoop opts t30 pingNeed ((.ctl id .onDemand, dt) :: rest) answers nexts w =
      if (popBool answers).1 then
        (some true, emit (.policyRebootAllowed .onDemand true) (emit (.reply id .alreadyRunning) (tick dt w)))
      else
        rebootLoop .onDemand t30 pingNeed rest (popBool answers).2 nexts
          (emit (.policyRebootAllowed .onDemand false) (emit (.reply id .alreadyRunning) (tick dt w))) := by
  rw [rebootLoop, if_pos rfl]
  generalize popBool answers = p
  obtain ⟨a, as⟩ := p
  cases a <;> rfl

/-- Once on-demand, always on-demand: every later reboot question of the wait carries on-demand
options. -/
def OnDemandQuestions : Action → Prop
  | .policyRebootAllowed o _ => o = .onDemand
  | _ => True

theorem onDemandQuestions_waitRest {w0 w w' : World} (ht : AddsT tWaitRest w w') (h : Adds OnDemandQuestions w0 w) :
    Adds OnDemandQuestions w0 w' :=
  h.trans (Adds.mono ht fun a ha => by
    cases a with
    | policyRebootAllowed o b => exact absurd ha Bool.false_ne_true
    | _ => trivial)

theorem rebootLoop_ondemand_sticky (t30 : Nat) (pingNeed : List Nat) (steps : List (WaitStep × Clock))
    (answers : List Bool) (nexts : List Timing) (w : World) :
    Adds OnDemandQuestions w (rebootLoop .onDemand t30 pingNeed steps answers nexts w).2 := by
  suffices ∀ w0, Adds OnDemandQuestions w0 w →
      Adds OnDemandQuestions w0 (rebootLoop .onDemand t30 pingNeed steps answers nexts w).2 from this w (Adds.refl _ _)
  intro w0 h
  -- the loop changes its options (to on-demand), so the induction is over all options equal to on-demand;
  -- cases as in `rebootLoop_replies`
  generalize ho : InstallSource.onDemand = opts
  fun_induction rebootLoop opts t30 pingNeed steps answers nexts w <;> subst ho
  next => exact h
  next => exact .emit rfl (.emit trivial h.tick)
  next ih => exact ih (.nTimer (.emit trivial (.emit rfl (.emit trivial h.tick)))) rfl
  next hp => exact onDemandQuestions_waitRest (addsT_ping hp) (.emit trivial h.tick)
  next harm hp ih =>
    exact ih (onDemandQuestions_waitRest (addsT_rearm harm) (onDemandQuestions_waitRest (addsT_ping hp) (.emit trivial h.tick))) rfl
  next ih => exact ih (.emit trivial h.tick) rfl
  next => exact .emit rfl (.emit trivial h.tick)
  next ih => exact ih (.emit rfl (.emit trivial h.tick)) rfl
  next ih => exact ih (.emit trivial h.tick) rfl

/-! ### Non-vacuity -/

example : upgradeOpts [(1, .scheduledTask), (2, .onDemand)] .scheduledTask = .onDemand := by decide
example : upgradeOpts [(1, .scheduledTask)] .scheduledTask = .scheduledTask := by decide
example : RebootReplies [(.ctl 5 .onDemand, ⟨0, 0⟩), (.fire 0, ⟨0, 0⟩), (.ctl 6 .scheduledTask, ⟨0, 0⟩)]
    [(6, .alreadyRunning), (5, .alreadyRunning)] := ⟨3, Nat.le_refl 3, rfl⟩

end Omaha.SM
