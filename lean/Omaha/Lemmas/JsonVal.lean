/-
The round trip seen from the reader's value type: a `Val` whose numbers are u64 and whose strings
are UTF-8 is written (`Mock.toJson`, `Json.render`) and read back as itself.
-/
import Omaha.Lemmas.JsonText
import Omaha.Mock

namespace Omaha.JsonP

open Omaha Omaha.Mock

mutual
  def GoodV : Val → Prop
    | .null => True
    | .bool _ => True
    | .num (.uint n) => n ≤ Dec.u64Max
    | .num (.other _) => False
    | .str s => validUtf8 s = true
    | .arr xs => GoodVL xs
    | .obj kvs => GoodVM kvs
  def GoodVL : List Val → Prop
    | [] => True
    | x :: xs => GoodV x ∧ GoodVL xs
  def GoodVM : List (Bytes × Val) → Prop
    | [] => True
    | (k, v) :: rest => validUtf8 k = true ∧ GoodV v ∧ GoodVM rest
end

mutual
  def depthV : Val → Nat
    | .arr xs => 1 + depthVL xs
    | .obj kvs => 1 + depthVM kvs
    | _ => 0
  def depthVL : List Val → Nat
    | [] => 0
    | x :: xs => max (depthV x) (depthVL xs)
  def depthVM : List (Bytes × Val) → Nat
    | [] => 0
    | (_, v) :: rest => max (depthV v) (depthVM rest)
end

mutual
  theorem toJson_spec : (v : Val) → GoodV v → Good (toJson v) ∧ toVal (toJson v) = v ∧ depthOf (toJson v) = depthV v
    | .null, _ => ⟨trivial, rfl, rfl⟩
    | .bool _, _ => ⟨trivial, rfl, rfl⟩
    | .num (.uint n), h => ⟨⟨Int.natCast_nonneg n, by simpa [GoodV] using h⟩, by simp [toJson, toVal], rfl⟩
    | .num (.other _), h => by simp [GoodV] at h
    | .str s, h => ⟨h, rfl, rfl⟩
    | .arr xs, h => by
      obtain ⟨h1, h2, h3⟩ := toJsons_spec xs h
      exact ⟨h1, by simp only [toJson, toVal, h2], by simp only [toJson, depthOf, depthV, h3]⟩
    | .obj kvs, h => by
      obtain ⟨h1, h2, h3⟩ := toJsonMembers_spec kvs h
      exact ⟨h1, by simp only [toJson, toVal, h2], by simp only [toJson, depthOf, depthV, h3]⟩
  theorem toJsons_spec : (xs : List Val) → GoodVL xs → GoodL (toJsons xs) ∧ toVals (toJsons xs) = xs ∧ depthL (toJsons xs) = depthVL xs
    | [], _ => ⟨trivial, rfl, rfl⟩
    | x :: xs, h => by
      obtain ⟨h1, h2, h3⟩ := toJson_spec x h.1
      obtain ⟨g1, g2, g3⟩ := toJsons_spec xs h.2
      exact ⟨⟨h1, g1⟩, by simp only [toJsons, toVals, h2, g2], by simp only [toJsons, depthL, depthVL, h3, g3]⟩
  theorem toJsonMembers_spec : (kvs : List (Bytes × Val)) → GoodVM kvs →
      GoodM (toJsonMembers kvs) ∧ toMembers (toJsonMembers kvs) = kvs ∧ depthM (toJsonMembers kvs) = depthVM kvs
    | [], _ => ⟨trivial, rfl, rfl⟩
    | (k, v) :: rest, h => by
      obtain ⟨h1, h2, h3⟩ := toJson_spec v h.2.1
      obtain ⟨g1, g2, g3⟩ := toJsonMembers_spec rest h.2.2
      exact ⟨⟨h.1, h1, g1⟩, by simp only [toJsonMembers, toMembers, h2, g2], by simp only [toJsonMembers, depthM, depthVM, h3, g3]⟩
end

/-- **parse_render for reader values.** -/
theorem parse_render_val (v : Val) (hg : GoodV v) (hd : depthV v < 100) : parse (Mock.render v) = .ok v := by
  obtain ⟨h1, h2, h3⟩ := toJson_spec v hg
  unfold Mock.render
  rw [parse_render (toJson v) h1 (h3 ▸ hd), h2]

/-! ### `Fits` for reader values (as in `Lemmas/JsonText` for `Json`) -/

def FitsV (d : Nat) (v : Val) : Prop := GoodV v ∧ depthV v ≤ d
def FitsVM (d : Nat) (kvs : List (Bytes × Val)) : Prop := GoodVM kvs ∧ depthVM kvs ≤ d

@[simp] theorem fitsV_null (d : Nat) : FitsV d .null := ⟨trivial, Nat.zero_le _⟩
@[simp] theorem fitsV_bool (d : Nat) (b : Bool) : FitsV d (.bool b) := ⟨trivial, Nat.zero_le _⟩
@[simp] theorem fitsV_str (d : Nat) (s : Bytes) : FitsV d (.str s) ↔ validUtf8 s = true := by
  simp [FitsV, GoodV, depthV]
@[simp] theorem fitsV_uint (d n : Nat) : FitsV d (.num (.uint n)) ↔ n ≤ Dec.u64Max := by
  simp [FitsV, GoodV, depthV]
@[simp] theorem fitsV_arr (d : Nat) (xs : List Val) : FitsV (d + 1) (.arr xs) ↔ ∀ x ∈ xs, FitsV d x := by
  simp only [FitsV, GoodV, depthV, Nat.add_comm 1, Nat.add_le_add_iff_right]
  induction xs with
  | nil => simp [GoodVL, depthVL]
  | cons x xs ih => rw [GoodVL, depthVL, Nat.max_le, List.forall_mem_cons, ← ih, and_and_and_comm]
@[simp] theorem fitsV_obj (d : Nat) (kvs : List (Bytes × Val)) : FitsV (d + 1) (.obj kvs) ↔ FitsVM d kvs := by
  simp only [FitsV, FitsVM, GoodV, depthV, Nat.add_comm 1, Nat.add_le_add_iff_right]

@[simp] theorem fitsVM_nil (d : Nat) : FitsVM d [] := ⟨trivial, Nat.zero_le _⟩
@[simp] theorem fitsVM_cons (d : Nat) (k : Bytes) (v : Val) (r : List (Bytes × Val)) :
    FitsVM d ((k, v) :: r) ↔ validUtf8 k = true ∧ FitsV d v ∧ FitsVM d r := by
  simp only [FitsVM, FitsV, GoodVM, depthVM, Nat.max_le]
  rw [and_assoc, and_and_and_comm]
theorem fitsVM_iff (d : Nat) (kvs : List (Bytes × Val)) : FitsVM d kvs ↔ ∀ kv ∈ kvs, validUtf8 kv.1 = true ∧ FitsV d kv.2 := by
  induction kvs with
  | nil => simp
  | cons kv kvs ih => rw [fitsVM_cons, ih, List.forall_mem_cons, and_assoc]
@[simp] theorem fitsVM_append (d : Nat) (a b : List (Bytes × Val)) : FitsVM d (a ++ b) ↔ FitsVM d a ∧ FitsVM d b := by
  simp only [fitsVM_iff, List.forall_mem_append]
@[simp] theorem fitsVM_ite (d : Nat) (c : Prop) [Decidable c] (a b : List (Bytes × Val)) :
    FitsVM d (if c then a else b) ↔ (c → FitsVM d a) ∧ (¬ c → FitsVM d b) := by
  split <;> simp [*]

theorem FitsVM.mono {d d' : Nat} {kvs : List (Bytes × Val)} (h : FitsVM d kvs) (hd : d ≤ d') : FitsVM d' kvs :=
  ⟨h.1, Nat.le_trans h.2 hd⟩

theorem parse_render_fitsV (v : Val) (d : Nat) (h : FitsV d v) (hd : d < 100) : parse (Mock.render v) = .ok v :=
  parse_render_val v h.1 (Nat.lt_of_le_of_lt h.2 hd)

/-- The keys of the documents are ASCII literals (for `simp (disch := lit_chars)`). -/
@[simp] theorem lit_s (k : String) (h : k.toList.all (fun c => c.toNat < 128) = true) : validUtf8 (Resp.s k) = true :=
  lit_ascii k h

end Omaha.JsonP
