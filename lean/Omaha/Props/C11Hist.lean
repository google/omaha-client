/-
C11 over whole histories: in any sequence of iterations of `run` — with requests at the waits, during
the checks and during the reboot waits — whose request ids are pairwise distinct, nobody is answered
twice, and every reply goes to a request of the iteration it is given in.
(`decideAndCheck_replies` in Props/C11 is the statement for one iteration, with the reply values.)
One fact is carried along the run (`*_replies_in_order`): the ids of the new replies, oldest first,
occur in order in the ids of the scripts; where the replies go and that nobody gets two is read off it.
-/
import Omaha.Props.C11
import Omaha.Props.C12

namespace Omaha.SM

open Omaha

/-- Nobody is answered before the policy has decided. -/
theorem prelude_replies (u : UnitEnv) (rs : RunState) (w : World) :
    let w0 : World := { w with env := u.env, nTimer := 0 }
    let w1 := (waitedStep rs w0).2
    let w2 := updateNext u.next w1
    let w3 := (armWait u.next w2).2
    replies (tick u.wakeDt (outerWait (armWait u.next w2).1 u.wake w3).2) = replies w :=
  replies_of_addsT noReply_before_decision
    (steps_tick (S := { tag := fun t => tInert t && t != .reply }) (steps_outerWait rfl (steps_armWait rfl
      (steps_updateNext rfl rfl (steps_waitedStep rfl rfl (.refl { w with env := u.env, nTimer := 0 })))))).adds

def wakeId : WaitStep → Option Nat
  | .ctl id _ => some id
  | _ => none

def unitIds (u : UnitEnv) : List Nat :=
  u.wake.filterMap wakeId ++ (u.during.map (·.1) ++ u.rebootSteps.filterMap ctlId)

theorem mem_nodup_of_reverse_sublist {l m : List Nat} (h : l.reverse.Sublist m) :
    (∀ x ∈ l, x ∈ m) ∧ (m.Nodup → l.Nodup) :=
  ⟨fun _ hx => h.subset (List.mem_reverse.2 hx), fun hm => (List.reverse_perm l).nodup_iff.1 (h.nodup hm)⟩

theorem decideAndCheck_new_replies (u : UnitEnv) (opts : InstallSource) (ctl : Option Nat) (w : World)
    (hctl : ∀ id, ctl = some id → id ∈ u.wake.filterMap wakeId) :
    ∃ new, replies (decideAndCheck u opts ctl w).2 = new ++ replies w ∧ (new.map (·.1)).reverse.Sublist (unitIds u) := by
  obtain ⟨rr, hr, hrr⟩ := decideAndCheck_replies u opts ctl w
  refine ⟨_, hr, ?_⟩
  simp only [List.map_append, List.reverse_append]
  refine .append ?_ (.append ?_ ?_)
  · cases ctl with
    | none => exact List.nil_sublist _
    | some id => exact List.singleton_sublist.2 (hctl id rfl)
  · split
    · simp [Function.comp_def]
    · exact List.nil_sublist _
  · rcases hrr with rfl | ⟨_, k, _, rfl⟩
    · exact List.nil_sublist _
    · simp only [List.map_reverse, List.reverse_reverse, List.map_map, Function.comp_def, List.map_id']
      exact (List.take_sublist k _).filterMap _

theorem runUnit_replies_in_order (u : UnitEnv) (rs : RunState) (w : World) :
    ∃ new, replies (runUnit u rs w).2.2 = new ++ replies w ∧ (new.map (·.1)).reverse.Sublist (unitIds u) := by
  have hp := prelude_replies u rs w
  have he := scheduled_check_only_after_timers u rs w
  simp only at hp he
  rw [he, ← hp]
  split
  · exact ⟨[], rfl, List.nil_sublist _⟩
  · exact decideAndCheck_new_replies u .scheduledTask none _ nofun
  · rename_i id src hwk
    refine decideAndCheck_new_replies u src (some id) _ fun id' h => ?_
    cases h
    exact List.mem_filterMap.2 ⟨_, outerWait_ctl_mem _ _ _ _ _ hwk, rfl⟩

/-- One iteration: the new replies go to requests of this iteration's script, to each at most once. -/
theorem runUnit_new_replies (u : UnitEnv) (rs : RunState) (w : World) :
    ∃ new, replies (runUnit u rs w).2.2 = new ++ replies w ∧ (∀ id ∈ new.map (·.1), id ∈ unitIds u) ∧
      ((unitIds u).Nodup → (new.map (·.1)).Nodup) :=
  let ⟨new, h, hs⟩ := runUnit_replies_in_order u rs w
  ⟨new, h, mem_nodup_of_reverse_sublist hs⟩

theorem runUnits_replies_in_order (units : List UnitEnv) (rs : RunState) (w : World) :
    ∃ new, replies (runUnits units rs w).2.2 = new ++ replies w ∧
      (new.map (·.1)).reverse.Sublist (units.flatMap unitIds) := by
  induction units generalizing rs w with
  | nil => exact ⟨[], rfl, .refl _⟩
  | cons u rest ih =>
    obtain ⟨new, h, hs⟩ := runUnit_replies_in_order u rs w
    rw [runUnits_cons, List.flatMap_cons]
    split
    · obtain ⟨new', h', hs'⟩ := ih (runUnit u rs w).2.1 (runUnit u rs w).2.2
      refine ⟨new' ++ new, by rw [h', h, List.append_assoc], ?_⟩
      rw [List.map_append, List.reverse_append]
      exact hs.append hs'
    · exact ⟨new, h, List.sublist_append_of_sublist_left hs⟩

/-- **reply_at_most_once (whole history).** Through any number of consecutive iterations of `run` whose
scripts name pairwise distinct requests, no request is answered twice (and every new reply goes to a
request of the history: `runUnits_replies_in_order`). -/
theorem history_replies_at_most_once (units : List UnitEnv) (rs : RunState) (w : World)
    (hn : (units.flatMap unitIds).Nodup)
    (hold : ∀ id ∈ (replies w).map (·.1), id ∉ units.flatMap unitIds)
    (hwn : ((replies w).map (·.1)).Nodup) :
    ((replies (runUnits units rs w).2.2).map (·.1)).Nodup := by
  obtain ⟨new, h, hs⟩ := runUnits_replies_in_order units rs w
  obtain ⟨hmem, hnd⟩ := mem_nodup_of_reverse_sublist hs
  rw [h, List.map_append, List.nodup_append]
  exact ⟨hnd hn, hwn, fun a ha b hb e => hold b hb (e ▸ hmem a ha)⟩

theorem fresh_history_replies_at_most_once (units : List UnitEnv) (rs : RunState) (w : World)
    (hn : (units.flatMap unitIds).Nodup) (h0 : replies w = []) :
    ((replies (runUnits units rs w).2.2).map (·.1)).Nodup :=
  history_replies_at_most_once units rs w hn (h0 ▸ fun _ h => nomatch h) (h0 ▸ List.nodup_nil)

/-- The hypothesis `hn` is satisfiable. -/
example (u v : UnitEnv) (hu : u.wake = [.fire 0, .ctl 1 .onDemand]) (hd : u.during = [(2, .scheduledTask)])
    (hr : u.rebootSteps = [(.ctl 3 .onDemand, ⟨0, 0⟩), (.fire 1, ⟨0, 0⟩), (.ctl 4 .scheduledTask, ⟨0, 0⟩)])
    (hv : v.wake = [.ctl 5 .scheduledTask]) (hvd : v.during = []) (hvr : v.rebootSteps = []) :
    ([u, v].flatMap unitIds).Nodup := by
  simp only [unitIds, hu, hd, hr, hv, hvd, hvr, List.flatMap_cons, List.flatMap_nil, List.map_cons, List.map_nil]
  decide

end Omaha.SM
