/-
Decimal rendering and parsing, hexadecimal encoding, splitting at a delimiter; and the step through
one guard of a parser (`of_ite_eq`).
-/
import Omaha.Basic.Bytes

namespace Omaha

/-- The parsers are chains of guards `if bad then err else …`: if the result is not `err`, the guard
was passed and the result is that of the rest. -/
theorem of_ite_eq {α} {c : Prop} [Decidable c] {a b x : α} (h : (if c then a else b) = x) (ha : a ≠ x) :
    ¬c ∧ b = x := by
  by_cases hc : c
  · rw [if_pos hc] at h; exact absurd h ha
  · rw [if_neg hc] at h; exact ⟨hc, h⟩

namespace Dec

def isDigit (b : UInt8) : Prop := 48 ≤ b.toNat ∧ b.toNat ≤ 57

instance (b : UInt8) : Decidable (isDigit b) := by unfold isDigit; infer_instance

theorem digitVal_eq_some (b : UInt8) (d : Nat) :
    digitVal b = some d ↔ isDigit b ∧ d = b.toNat - 48 := by
  fun_cases digitVal b with
  | case1 h => simp [isDigit, h, eq_comm]
  | case2 h => simp [isDigit, h]

def valueFrom : Nat → List Nat → Nat
  | acc, [] => acc
  | acc, d :: ds => valueFrom (acc * 10 + d) ds

def valueOf (s : Bytes) : Nat := valueFrom 0 (s.map fun b => b.toNat - 48)

theorem foldDigits_eq_some_iff (acc : Nat) (s : Bytes) (v : Nat) :
    foldDigits acc s = some v ↔
      (∀ b ∈ s, isDigit b) ∧ valueFrom acc (s.map fun b => b.toNat - 48) = v := by
  induction s generalizing acc with
  | nil => simp [foldDigits, valueFrom]
  | cons b bs ih =>
    simp only [foldDigits, List.mem_cons, forall_eq_or_imp, List.map_cons, valueFrom]
    by_cases hb : isDigit b
    · rw [show digitVal b = some (b.toNat - 48) from if_pos hb, ih]; simp only [hb, true_and]
    · rw [show digitVal b = none from if_neg hb]; simp only [hb, false_and, reduceCtorEq]

theorem parseBody_eq_some_iff (max : Nat) (body : Bytes) (n : Nat) :
    parseBody max body = some n ↔
      body ≠ [] ∧ (∀ b ∈ body, isDigit b) ∧ valueOf body = n ∧ n ≤ max := by
  unfold parseBody valueOf
  rw [← and_assoc (b := _ = n), ← foldDigits_eq_some_iff]
  by_cases hnil : body = []
  · simp [hnil]
  · rw [if_neg hnil]
    cases foldDigits 0 body with
    | none => simp
    | some v =>
      by_cases hle : v ≤ max
      · simp only [hle, if_true, Option.some.injEq, ne_eq, hnil, not_false_eq_true, true_and]
        exact ⟨fun h => ⟨h, h ▸ hle⟩, fun h => h.1⟩
      · simp only [hle, if_false, Option.some.injEq, ne_eq, hnil, not_false_eq_true, true_and, reduceCtorEq,
          false_iff]
        rintro ⟨rfl, h⟩; exact hle h

theorem stripPlus_of_digit_head (b : UInt8) (bs : Bytes) (hb : isDigit b) :
    stripPlus (b :: bs) = b :: bs := by
  unfold stripPlus
  split
  · rename_i heq
    simp only [List.cons.injEq] at heq
    have h43 : ¬ isDigit (43 : UInt8) := by decide
    exact absurd (heq.1 ▸ hb) h43
  · rfl

theorem stripPlus_cases (s : Bytes) : s = stripPlus s ∨ s = 43 :: stripPlus s := by
  unfold stripPlus
  split
  · right; rfl
  · left; rfl

/-- Characterisation of Rust's unsigned grammar: an optional `+`, then one or more digits whose
value is at most `max`. -/
theorem parseUnsigned_eq_some_iff (max : Nat) (s : Bytes) (n : Nat) :
    parseUnsigned max s = some n ↔
      ∃ body, (s = body ∨ s = 43 :: body) ∧ body ≠ [] ∧ (∀ b ∈ body, isDigit b) ∧
        valueOf body = n ∧ n ≤ max := by
  unfold parseUnsigned
  rw [parseBody_eq_some_iff]
  constructor
  · rintro ⟨h1, h2, h3, h4⟩
    exact ⟨stripPlus s, stripPlus_cases s, h1, h2, h3, h4⟩
  · rintro ⟨body, hs, hne, hall, hval, hle⟩
    have : stripPlus s = body := by
      rcases hs with rfl | rfl
      · cases s with
        | nil => exact absurd rfl hne
        | cons b bs => exact stripPlus_of_digit_head b bs (hall b (by simp))
      · rfl
    rw [this]
    exact ⟨hne, hall, hval, hle⟩

theorem parseUnsigned_isSome_iff (max : Nat) (s : Bytes) :
    (parseUnsigned max s).isSome ↔
      ∃ body, (s = body ∨ s = 43 :: body) ∧ body ≠ [] ∧ (∀ b ∈ body, isDigit b) ∧
        valueOf body ≤ max := by
  rw [Option.isSome_iff_exists]
  constructor
  · rintro ⟨n, hn⟩
    obtain ⟨body, h1, h2, h3, h4, h5⟩ := (parseUnsigned_eq_some_iff max s n).1 hn
    exact ⟨body, h1, h2, h3, h4 ▸ h5⟩
  · rintro ⟨body, h1, h2, h3, h4⟩
    exact ⟨valueOf body, (parseUnsigned_eq_some_iff max s _).2 ⟨body, h1, h2, h3, rfl, h4⟩⟩

/-! ### Rendering: non-empty, all digits, of value `n` — so it parses back to `n` -/

theorem toNat_digitByte (d : Nat) : (digitByte d).toNat = 48 + d % 10 :=
  UInt8.toNat_ofNat_of_lt' (Nat.lt_of_lt_of_le (Nat.add_lt_add_left (Nat.mod_lt d (by decide)) 48) (by decide))

theorem isDigit_digitByte (d : Nat) : isDigit (digitByte d) := by
  unfold isDigit; rw [toNat_digitByte]
  exact ⟨Nat.le_add_right 48 _, Nat.add_le_add_left (Nat.le_of_lt_succ (Nat.mod_lt d (by decide))) 48⟩

theorem valueFrom_append (acc : Nat) (xs ys : List Nat) :
    valueFrom acc (xs ++ ys) = valueFrom (valueFrom acc xs) ys := by
  induction xs generalizing acc with
  | nil => rfl
  | cons x xs ih => simp [valueFrom, ih]

theorem revDigitsAux_lt (fuel n : Nat) : ∀ d ∈ revDigitsAux fuel n, d < 10 := by
  fun_induction revDigitsAux fuel n with
  | case1 => exact fun _ h => nomatch h
  | case2 => exact fun _ h => nomatch h
  | case3 fuel n hn ih => exact List.forall_mem_cons.2 ⟨Nat.mod_lt n (by decide), ih⟩

theorem revDigits_lt (n : Nat) : ∀ d ∈ revDigits n, d < 10 := revDigitsAux_lt n n

/-- The fuel that is enough for `n` is enough for its higher digits. -/
theorem div_ten_le {n fuel : Nat} (hn : n ≠ 0) (h : n ≤ fuel + 1) : n / 10 ≤ fuel :=
  Nat.le_of_lt_succ (Nat.lt_of_lt_of_le (Nat.div_lt_self (Nat.pos_of_ne_zero hn) (by decide)) h)

theorem valueFrom_reverse_revDigitsAux (fuel n : Nat) (h : n ≤ fuel) :
    valueFrom 0 (revDigitsAux fuel n).reverse = n := by
  fun_induction revDigitsAux fuel n with
  | case1 n => exact (Nat.le_zero.1 h).symm
  | case2 fuel => rfl
  | case3 fuel n hn ih =>
    rw [List.reverse_cons, valueFrom_append, ih (div_ten_le hn h)]
    exact Nat.div_add_mod' n 10

theorem valueFrom_reverse_revDigits (n : Nat) : valueFrom 0 (revDigits n).reverse = n :=
  valueFrom_reverse_revDigitsAux n n (Nat.le_refl n)

theorem revDigits_ne_nil {n : Nat} (h : n ≠ 0) : revDigits n ≠ [] := by
  unfold revDigits
  cases n with
  | zero => exact absurd rfl h
  | succ m => simp [revDigitsAux]

theorem render_ne_nil (n : Nat) : render n ≠ [] := by
  unfold render
  split
  · simp
  · rename_i h
    simp [revDigits_ne_nil h]

theorem render_all_digits (n : Nat) : ∀ b ∈ render n, isDigit b := by
  unfold render
  split
  · intro b hb; simp at hb; subst hb; decide
  · intro b hb
    simp only [List.mem_map] at hb
    obtain ⟨d, _, rfl⟩ := hb
    exact isDigit_digitByte d

theorem not_mem_render {b : UInt8} (hb : ¬ isDigit b) (n : Nat) : b ∉ render n :=
  fun h => hb (render_all_digits n b h)

theorem valueOf_render (n : Nat) : valueOf (render n) = n := by
  unfold valueOf render
  split
  · subst n; rfl
  · have : ∀ d ∈ (revDigits n).reverse, ((fun b => b.toNat - 48) ∘ digitByte) d = d := fun d hd => by
      rw [Function.comp, toNat_digitByte, Nat.add_sub_cancel_left,
        Nat.mod_eq_of_lt (revDigits_lt n d (List.mem_reverse.1 hd))]
    rw [List.map_map, List.map_congr_left this, List.map_id', valueFrom_reverse_revDigits]

theorem render_injective {a b : Nat} (h : render a = render b) : a = b := by
  rw [← valueOf_render a, h, valueOf_render b]

theorem foldDigits_render (n : Nat) : foldDigits 0 (render n) = some n :=
  (foldDigits_eq_some_iff 0 _ n).2 ⟨render_all_digits n, valueOf_render n⟩

theorem parseUnsigned_render (max n : Nat) (h : n ≤ max) : parseUnsigned max (render n) = some n :=
  (parseUnsigned_eq_some_iff max _ n).2
    ⟨_, .inl rfl, render_ne_nil n, render_all_digits n, valueOf_render n, h⟩

theorem digitByte_inj {d d' : Nat} (hd : d < 10) (hd' : d' < 10) (h : digitByte d = digitByte d') : d = d' := by
  have := congrArg UInt8.toNat h
  rw [toNat_digitByte, toNat_digitByte, Nat.mod_eq_of_lt hd, Nat.mod_eq_of_lt hd'] at this
  exact Nat.add_left_cancel this

theorem render_eq_cons (n : Nat) : ∃ b t, render n = b :: t ∧ isDigit b := by
  cases h : render n with
  | nil => exact absurd h (render_ne_nil n)
  | cons b t => exact ⟨b, t, rfl, render_all_digits n b (by rw [h]; simp)⟩

theorem renderInt_ne_nil (i : Int) : renderInt i ≠ [] := by
  unfold renderInt
  split
  · simp
  · exact render_ne_nil _

theorem revDigitsAux_length (fuel n k : Nat) (h : n < 10 ^ k) : (revDigitsAux fuel n).length ≤ k := by
  fun_induction revDigitsAux fuel n generalizing k with
  | case1 => exact Nat.zero_le k
  | case2 => exact Nat.zero_le k
  | case3 fuel n hn ih =>
    cases k with
    | zero => exact absurd (Nat.lt_one_iff.1 h) hn
    | succ k =>
      rw [Nat.pow_succ, Nat.mul_comm] at h
      exact Nat.succ_le_succ (ih k (Nat.div_lt_of_lt_mul h))

theorem render_length_le (n k : Nat) (hk : 1 ≤ k) (h : n < 10 ^ k) : (render n).length ≤ k := by
  unfold render
  split
  · simpa using hk
  · simp only [List.length_map, List.length_reverse]
    exact revDigitsAux_length n n k h

theorem revDigitsAux_getLast (fuel n : Nat) (h : n ≤ fuel) (hn : n ≠ 0) :
    ∀ d, (revDigitsAux fuel n).getLast? = some d → d ≠ 0 := by
  induction fuel generalizing n with
  | zero => exact absurd (Nat.le_zero.1 h) hn
  | succ fuel ih =>
    intro d hd
    rw [revDigitsAux, if_neg hn] at hd
    have hle : n / 10 ≤ fuel := div_ten_le hn h
    by_cases h10 : n / 10 = 0
    · -- a single digit: were it 0, `n` would be 0
      have : revDigitsAux fuel (n / 10) = [] := by rw [h10]; cases fuel <;> rfl
      rw [this, List.getLast?_singleton] at hd
      cases hd
      intro h0
      exact hn (by rw [← Nat.div_add_mod n 10, h10, h0])
    · have hne : revDigitsAux fuel (n / 10) ≠ [] := by
        cases fuel with
        | zero => exact absurd (Nat.le_zero.1 hle) h10
        | succ f => rw [revDigitsAux, if_neg h10]; exact List.cons_ne_nil _ _
      rw [List.getLast?_cons_of_ne_nil hne] at hd
      exact ih (n / 10) hle h10 d hd

theorem render_head (n : Nat) (hn : n ≠ 0) : (render n).head? ≠ some 48 := by
  unfold render
  simp only [hn, if_false]
  intro h
  rw [List.head?_map, List.head?_reverse] at h
  cases hl : (revDigits n).getLast? with
  | none => rw [hl] at h; cases h
  | some d =>
    rw [hl] at h
    have h0 : d = 0 := digitByte_inj (revDigits_lt n d (List.mem_of_getLast? hl)) (by decide) (Option.some.inj h)
    exact revDigitsAux_getLast n n (Nat.le_refl _) hn d hl h0

end Dec

namespace Hex

theorem nibbleByte_spec (d : Nat) (h : d < 16) :
    nibbleVal (nibbleByte d) = some d ∧
      ((48 ≤ (nibbleByte d).toNat ∧ (nibbleByte d).toNat ≤ 57) ∨
        (97 ≤ (nibbleByte d).toNat ∧ (nibbleByte d).toNat ≤ 102)) := by
  revert d; decide +kernel

theorem encode_length (b : Bytes) : (encode b).length = 2 * b.length := by
  induction b with
  | nil => rfl
  | cons x xs ih => rw [encode, List.length_cons, List.length_cons, ih, List.length_cons, Nat.mul_succ]

theorem encode_chars (b : Bytes) :
    ∀ c ∈ encode b, (48 ≤ c.toNat ∧ c.toNat ≤ 57) ∨ (97 ≤ c.toNat ∧ c.toNat ≤ 102) := by
  induction b with
  | nil => exact fun _ h => nomatch h
  | cons x xs ih =>
    rw [encode, List.forall_mem_cons, List.forall_mem_cons]
    exact ⟨(nibbleByte_spec _ (Nat.div_lt_of_lt_mul x.toNat_lt)).2,
      (nibbleByte_spec _ (Nat.mod_lt _ (by decide))).2, ih⟩

theorem encode_no_colon (a : Bytes) : (58 : UInt8) ∉ encode a := fun h => by
  have := encode_chars a 58 h
  revert this; decide

theorem decode_encode (b : Bytes) : decode (encode b) = some b := by
  induction b with
  | nil => rfl
  | cons x xs ih =>
    have hi : x.toNat / 16 < 16 := Nat.div_lt_of_lt_mul x.toNat_lt
    simp only [encode, decode, (nibbleByte_spec _ hi).1, (nibbleByte_spec _ (Nat.mod_lt _ (by decide))).1, ih,
      Nat.div_add_mod', UInt8.ofNat_toNat]

theorem encode_injective {a b : Bytes} (h : encode a = encode b) : a = b :=
  Option.some.inj (by rw [← decode_encode a, h, decode_encode b])

end Hex

namespace Bytes

/-! ### String literals

A literal is `String.ofList` of its characters by the kernel's rule for literals, so in the two
lemmas below `l` is found by unification with a literal, and `String.toList_ofList` gives the
characters without `String.toList` ever being run on the literal: its UTF-8 decoder costs the kernel
about 10 ms per character and the elaborator several times that. -/

theorem ofString_ofList (l : List Char) : ofString (String.ofList l) = l.map fun c => UInt8.ofNat c.toNat := by
  rw [ofString, String.toList_ofList]

theorem toList_all_ofList {p : Char → Bool} (l : List Char) (h : l.all p = true) : (String.ofList l).toList.all p = true := by
  rw [String.toList_ofList]; exact h

theorem splitOn_ne_nil (d : UInt8) (s : Bytes) : splitOn d s ≠ [] := by
  induction s with
  | nil => simp [splitOn]
  | cons x xs ih =>
    unfold splitOn
    split
    · simp
    · split
      · rename_i h; exact absurd h ih
      · simp

/-- The first branch of the `match` in `splitOn` is dead: to compute with `splitOn d (x :: xs)`, name
the parts of `xs`. -/
theorem splitOn_eq_cons (d : UInt8) (s : Bytes) : ∃ p ps, splitOn d s = p :: ps :=
  List.exists_cons_of_ne_nil (splitOn_ne_nil d s)

theorem splitOn_of_not_mem (d : UInt8) (p : Bytes) (h : d ∉ p) : splitOn d p = [p] := by
  induction p with
  | nil => rfl
  | cons x xs ih =>
    have hx : x ≠ d := fun e => h (e ▸ List.mem_cons_self)
    rw [splitOn, if_neg hx, ih fun hm => h (List.mem_cons_of_mem x hm)]

theorem splitOn_append_cons (d : UInt8) (a b : Bytes) :
    splitOn d (a ++ d :: b) = splitOn d a ++ splitOn d b := by
  induction a with
  | nil => simp [splitOn]
  | cons x a ih =>
    obtain ⟨p, ps, hp⟩ := splitOn_eq_cons d a
    by_cases hx : x = d <;> simp [splitOn, hx, ih, hp]

theorem splitOn_joinWith (d : UInt8) (ps : List Bytes) (hne : ps ≠ []) (h : ∀ p ∈ ps, d ∉ p) :
    splitOn d (joinWith d ps) = ps := by
  induction ps with
  | nil => exact absurd rfl hne
  | cons p ps ih =>
    have hp := splitOn_of_not_mem d p (h p List.mem_cons_self)
    cases ps with
    | nil => exact hp
    | cons q qs =>
      rw [joinWith, splitOn_append_cons, hp, ih (List.cons_ne_nil q qs) fun x hx => h x (List.mem_cons_of_mem p hx)]
      rfl

theorem joinWith_splitOn (d : UInt8) (s : Bytes) : joinWith d (splitOn d s) = s := by
  induction s with
  | nil => rfl
  | cons x xs ih =>
    obtain ⟨p, ps, hp⟩ := splitOn_eq_cons d xs
    rw [hp] at ih
    by_cases hx : x = d
    · simp [splitOn, hx, hp, joinWith, ih]
    · cases ps <;> simp_all [splitOn, joinWith]

theorem splitOn_parts_no_delim (d : UInt8) (s : Bytes) : ∀ p ∈ splitOn d s, d ∉ p := by
  induction s with
  | nil => simp [splitOn]
  | cons x xs ih =>
    obtain ⟨p, ps, hp⟩ := splitOn_eq_cons d xs
    obtain ⟨h1, h2⟩ := List.forall_mem_cons.1 (hp ▸ ih)
    by_cases hx : x = d
    · simp only [splitOn, if_pos hx, hp]
      exact List.forall_mem_cons.2 ⟨List.not_mem_nil, List.forall_mem_cons.2 ⟨h1, h2⟩⟩
    · simp only [splitOn, if_neg hx, hp]
      exact List.forall_mem_cons.2 ⟨fun hm => (List.mem_cons.1 hm).elim (fun e => hx e.symm) h1, h2⟩

end Bytes
end Omaha
