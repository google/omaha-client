/-
Facts about the primitives of the state-machine model: `Adds P w w'` (the trace of `w'` extends that
of `w` by actions satisfying `P`), the primitives in closed form (`storeOp_eq`, `sendRequest_eq`, …),
and the relation `Sim` with the one-run lemmas `inv_*`: storage operations and metrics are invisible
to everything else the machine does.
-/
import Omaha.SM.Run

namespace Omaha.SM

open Omaha

def Adds (P : Action → Prop) (w w' : World) : Prop :=
  ∃ d : List Action, w'.trace = d ++ w.trace ∧ ∀ a ∈ d, P a

theorem Adds.refl (P) (w : World) : Adds P w w := ⟨[], rfl, by simp⟩

theorem Adds.of_eq_trace (P) (w w' : World) (h : w'.trace = w.trace) : Adds P w w' := ⟨[], by simp [h], by simp⟩

theorem Adds.trans {P} {w1 w2 w3 : World} (h1 : Adds P w1 w2) (h2 : Adds P w2 w3) : Adds P w1 w3 := by
  obtain ⟨d1, e1, p1⟩ := h1
  obtain ⟨d2, e2, p2⟩ := h2
  refine ⟨d2 ++ d1, by rw [e2, e1, List.append_assoc], ?_⟩
  intro a ha
  rcases List.mem_append.1 ha with h | h
  · exact p2 a h
  · exact p1 a h

theorem Adds.mono {P Q : Action → Prop} {w w' : World} (h : Adds P w w') (hpq : ∀ a, P a → Q a) : Adds Q w w' := by
  obtain ⟨d, e, p⟩ := h
  exact ⟨d, e, fun a ha => hpq a (p a ha)⟩

theorem Adds.on {P} {w w' : World} (h : Adds P w w') {d : List Action} (e : w'.trace = d ++ w.trace) : ∀ a ∈ d, P a := by
  obtain ⟨d', e', p⟩ := h
  rw [List.append_cancel_right (e.symm.trans e')]
  exact p

theorem Adds.of_cons {P : Action → Prop} {w w' : World} {a : Action} (e : w'.trace = a :: w.trace) (h : P a) : Adds P w w' :=
  ⟨[a], e, fun _ hb => List.mem_singleton.1 hb ▸ h⟩

theorem adds_emit (P : Action → Prop) (a : Action) (w : World) (h : P a) : Adds P w (emit a w) := .of_cons rfl h

/-! `Adds` with the steps made so far as the last argument, as in Lemmas/SMSteps. -/

theorem Adds.emit {P : Action → Prop} {w0 w : World} {a : Action} (ha : P a) (h : Adds P w0 w) : Adds P w0 (emit a w) :=
  h.trans (adds_emit P a w ha)

theorem Adds.tick {P : Action → Prop} {w0 w : World} {dt : Clock} (h : Adds P w0 w) : Adds P w0 (tick dt w) := h

theorem Adds.nTimer {P : Action → Prop} {w0 w : World} {n : Nat} (h : Adds P w0 w) : Adds P w0 { w with nTimer := n } := h

def isStorage : Action → Prop
  | .storage _ _ => True
  | _ => False

theorem emit_env (a : Action) (w : World) : (emit a w).env = w.env := rfl

theorem popFail_eq (w : World) :
    popFail w = (w.env.storeFail.headD false, { w with env := { w.env with storeFail := w.env.storeFail.tail } }) := by
  unfold popFail
  rcases h : w.env.storeFail with _ | ⟨f, rest⟩
  · -- here `popFail w = (false, w)`; the right side rebuilds `w`, so take it apart for `h` to rewrite the field
    cases w with
    | mk cfg cup ctx apps sys store clock env ng nn nt tr => cases env; simp_all
  · rfl

theorem popJitter_eq (w : World) :
    popJitter w = (w.env.jitter.headD 0, w.env.backoffDt.headD ⟨0, 0⟩,
      { w with env := { w.env with jitter := w.env.jitter.tail, backoffDt := w.env.backoffDt.tail } }) := by
  -- with the world spelt out down to the two queues both sides compute
  obtain ⟨cfg, cup, ctx, apps, sys, store, clock, ⟨_, _, _, _, _, _, _, _, _, _, js, ds⟩, ng, nn, nt, tr⟩ := w
  cases js <;> cases ds <;> rfl

theorem storeOp_eq (op : StoreOp) (w : World) :
    storeOp op w = (!w.env.storeFail.headD false,
      emit (.storage op (!w.env.storeFail.headD false))
        { w with env := { w.env with storeFail := w.env.storeFail.tail },
                 store := if w.env.storeFail.headD false then w.store else applyOp op w.store }) := by
  unfold storeOp
  rw [popFail_eq]
  cases w.env.storeFail.headD false <;> rfl

theorem storeOp_trace (op : StoreOp) (w : World) : (storeOp op w).2.trace = .storage op (storeOp op w).1 :: w.trace := by
  rw [storeOp_eq]; rfl

/-- The storage operation `set_option_int` performs. -/
def optOp (k : Bytes) : Option Int → StoreOp
  | some i => .set k (.int i)
  | none => .remove k

theorem setOptionInt_eq (k : Bytes) (v : Option Int) (w : World) :
    setOptionInt k v w = storeOp (optOp k v) w := by
  unfold setOptionInt optOp; cases v <;> rfl

def Env.http (e : Env) : ReqKind → List HttpOutcome
  | .updateCheck => e.httpUC
  | .eventReport => e.httpEV
  | .ping => e.httpPing

def Env.popHttp (e : Env) : ReqKind → Env
  | .updateCheck => { e with httpUC := e.httpUC.tail }
  | .eventReport => { e with httpEV := e.httpEV.tail }
  | .ping => { e with httpPing := e.httpPing.tail }

theorem popHttp_eq (k : ReqKind) (w : World) :
    popHttp k w = ((w.env.http k).headD default, { w with env := w.env.popHttp k }) := by
  -- with the world spelt out down to the queue of kind `k` both sides compute
  obtain ⟨cfg, cup, ctx, apps, sys, store, clock, ⟨uc, ev, ping, _, _, _, _, _, _, _, _, _⟩, ng, nn, nt, tr⟩ := w
  cases k
  · cases uc <;> rfl
  · cases ev <;> rfl
  · cases ping <;> rfl

def mkReq (k : ReqKind) (b : Request.Builder) (n : Option Nat) : WireReq :=
  { kind := k, source := b.params.source, sessionDraw := b.sessionId.map guidOf,
    requestDraw := b.requestId.map guidOf, nonceDraw := n, apps := wireApps b }

theorem sendRequest_eq (k : ReqKind) (b : Request.Builder) (w : World) :
    sendRequest k b w = ((w.env.http k).headD default,
      emit (.http (mkReq k b (if w.cup.isSome then some w.nNonce else none)) ((w.env.http k).headD default))
        { w with nNonce := if w.cup.isSome then w.nNonce + 1 else w.nNonce, env := w.env.popHttp k }) := by
  unfold sendRequest
  simp only [popHttp_eq, mkReq]
  cases w.cup.isSome <;> rfl

theorem sendRequest_snd (k : ReqKind) (b : Request.Builder) (w : World) :
    (sendRequest k b w).2 =
      emit (.http (mkReq k b (if w.cup.isSome then some w.nNonce else none)) (sendRequest k b w).1)
        { w with nNonce := if w.cup.isSome then w.nNonce + 1 else w.nNonce, env := w.env.popHttp k } := by
  rw [sendRequest_eq]

theorem sendRequest_mkReq (k : ReqKind) (b : Request.Builder) (w : World) :
    (sendRequest k b w).2.trace =
      .http (mkReq k b (if w.cup.isSome then some w.nNonce else none)) (sendRequest k b w).1 :: w.trace := by
  rw [sendRequest_snd]; rfl

theorem handleOutcome_response (st : Nat) (ra : Option Bytes) (body : Bytes) (auth : Bool) (dt : Clock) (w : World) :
    handleOutcome (.response st ra body auth dt) w =
      if w.cup.isSome ∧ !auth then (.error ⟨.cupValidation, false⟩, tick dt w)
      else (if 200 ≤ st ∧ st < 300 then .ok body else .error ⟨.status, false⟩,
            applyPoll (parseRetryAfter ra) (tick dt w)) := by
  -- a pair with an `if` in its first component is the `if` of the pairs; the rest is the definition
  rw [apply_ite (fun r => (r, applyPoll (parseRetryAfter ra) (tick dt w)))]
  rfl

/-! ### Storage operations and metrics are invisible

`Sim` relates worlds that differ only in what storage holds, which storage operations are scripted
to fail, and the storage / metric actions logged so far.  A function that only performs storage
operations and reports metrics takes a world to a `Sim`-related one. -/

def visible : Action → Bool
  | .storage _ _ => false
  | .metric _ => false
  | _ => true

structure EnvSim (e e' : Env) : Prop where
  httpUC : e.httpUC = e'.httpUC
  httpEV : e.httpEV = e'.httpEV
  httpPing : e.httpPing = e'.httpPing
  plan : e.plan = e'.plan
  canStart : e.canStart = e'.canStart
  progress : e.progress = e'.progress
  results : e.results = e'.results
  installDt : e.installDt = e'.installDt
  rebootNeeded : e.rebootNeeded = e'.rebootNeeded
  jitter : e.jitter = e'.jitter
  backoffDt : e.backoffDt = e'.backoffDt

structure Sim (w w' : World) : Prop where
  cfg : w.cfg = w'.cfg
  cup : w.cup = w'.cup
  ctx : w.ctx = w'.ctx
  apps : w.apps = w'.apps
  sysApp : w.sysApp = w'.sysApp
  clock : w.clock = w'.clock
  nGuid : w.nGuid = w'.nGuid
  nNonce : w.nNonce = w'.nNonce
  nTimer : w.nTimer = w'.nTimer
  env : EnvSim w.env w'.env
  trace : w.trace.filter visible = w'.trace.filter visible

theorem EnvSim.refl (e : Env) : EnvSim e e := ⟨rfl, rfl, rfl, rfl, rfl, rfl, rfl, rfl, rfl, rfl, rfl⟩
theorem EnvSim.symm {e e' : Env} (h : EnvSim e e') : EnvSim e' e :=
  ⟨h.1.symm, h.2.symm, h.3.symm, h.4.symm, h.5.symm, h.6.symm, h.7.symm, h.8.symm, h.9.symm, h.10.symm, h.11.symm⟩
theorem EnvSim.trans {a b c : Env} (h : EnvSim a b) (g : EnvSim b c) : EnvSim a c :=
  ⟨h.1.trans g.1, h.2.trans g.2, h.3.trans g.3, h.4.trans g.4, h.5.trans g.5, h.6.trans g.6, h.7.trans g.7,
   h.8.trans g.8, h.9.trans g.9, h.10.trans g.10, h.11.trans g.11⟩

theorem envSim_storeFail (e : Env) (sf : List Bool) : EnvSim e { e with storeFail := sf } :=
  ⟨rfl, rfl, rfl, rfl, rfl, rfl, rfl, rfl, rfl, rfl, rfl⟩

theorem EnvSim.http {e e' : Env} (h : EnvSim e e') (k : ReqKind) : e.http k = e'.http k := by
  cases k
  · exact h.httpUC
  · exact h.httpEV
  · exact h.httpPing

theorem EnvSim.popHttp {e e' : Env} (h : EnvSim e e') (k : ReqKind) : EnvSim (e.popHttp k) (e'.popHttp k) := by
  cases k
  · exact { h with httpUC := congrArg List.tail h.httpUC }
  · exact { h with httpEV := congrArg List.tail h.httpEV }
  · exact { h with httpPing := congrArg List.tail h.httpPing }

theorem Sim.refl (w : World) : Sim w w := ⟨rfl, rfl, rfl, rfl, rfl, rfl, rfl, rfl, rfl, EnvSim.refl _, rfl⟩
theorem Sim.symm {w w' : World} (h : Sim w w') : Sim w' w :=
  ⟨h.cfg.symm, h.cup.symm, h.ctx.symm, h.apps.symm, h.sysApp.symm, h.clock.symm, h.nGuid.symm, h.nNonce.symm,
   h.nTimer.symm, h.env.symm, h.trace.symm⟩
theorem Sim.trans {a b c : World} (h : Sim a b) (g : Sim b c) : Sim a c :=
  ⟨h.cfg.trans g.cfg, h.cup.trans g.cup, h.ctx.trans g.ctx, h.apps.trans g.apps, h.sysApp.trans g.sysApp,
   h.clock.trans g.clock, h.nGuid.trans g.nGuid, h.nNonce.trans g.nNonce, h.nTimer.trans g.nTimer,
   h.env.trans g.env, h.trace.trans g.trace⟩

theorem Sim.inv {w w' w1 w1' : World} (s : Sim w w') (h : Sim w w1) (h' : Sim w' w1') : Sim w1 w1' :=
  h.symm.trans (s.trans h')

theorem inv_storeOp (op : StoreOp) (w : World) : Sim w (storeOp op w).2 := by
  rw [storeOp_eq]
  exact ⟨rfl, rfl, rfl, rfl, rfl, rfl, rfl, rfl, rfl, envSim_storeFail _ _, rfl⟩

theorem inv_storeOp_ (op : StoreOp) (w : World) : Sim w (storeOp_ op w) := inv_storeOp op w

theorem inv_metric (m : Metric) (w : World) : Sim w (metric m w) :=
  ⟨rfl, rfl, rfl, rfl, rfl, rfl, rfl, rfl, rfl, EnvSim.refl _, by simp [metric, emit, visible]⟩

theorem inv_setOptionInt (k : Bytes) (v : Option Int) (w : World) : Sim w (setOptionInt k v w).2 := by
  unfold setOptionInt; split <;> exact inv_storeOp _ _

theorem inv_setTime (k : Bytes) (t : Int) (w : World) : Sim w (setTime k t w).2 := inv_setOptionInt _ _ _

theorem inv_persistCtx (w : World) : Sim w (persistCtx w) := by
  unfold persistCtx
  exact ((inv_setOptionInt _ _ _).trans (inv_setOptionInt _ _ _)).trans (inv_setOptionInt _ _ _)

theorem inv_persistApps (apps : List App) (w : World) : Sim w (persistApps apps w) := by
  induction apps generalizing w with
  | nil => exact Sim.refl _
  | cons a rest ih => exact (inv_storeOp_ _ _).trans (ih _)

/-- `persist_data` writes the *in-memory* context and apps: which writes are attempted depends on
`ctx` and `apps` only, so the step is invisible. -/
theorem inv_persistData (w : World) : Sim w (persistData w) := by
  unfold persistData
  have h1 := inv_persistCtx w
  have h2 := h1.trans (inv_persistApps w.apps (persistCtx w))
  exact h2.trans (inv_storeOp_ _ _)

theorem inv_recordNewPlan (planId : Bytes) (now : Int) (w : World) : Sim w (recordNewPlan planId now w).2 := by
  have h1 := inv_storeOp (.set kInstallPlanId (.str planId)) w
  have h2 := h1.trans (inv_setTime kFirstSeen now _)
  fun_cases recordNewPlan planId now w
  · exact h1
  · exact h2.trans (inv_storeOp_ _ _)
  · exact h2.trans (inv_storeOp_ _ _)

theorem inv_recordFirstSeen (planId : Bytes) (now : Int) (w : World) : Sim w (recordFirstSeen planId now w).2 := by
  unfold recordFirstSeen
  split
  · exact Sim.refl _
  · exact inv_recordNewPlan planId now w

theorem inv_reportAttemptsInstall (s : Bool) (w : World) : Sim w (reportAttemptsInstall s w) := by
  unfold reportAttemptsInstall
  cases s <;> exact (inv_metric _ w).trans (inv_storeOp_ _ _)

theorem inv_firstSeenMetric (firstSeen finish : Int) (w : World) : Sim w (firstSeenMetric firstSeen finish w) := by
  unfold firstSeenMetric
  split
  · exact inv_metric _ _
  · exact Sim.refl _

theorem inv_durationMetric (startWall : Int) (results : List AppResult) (w : World) :
    Sim w (durationMetric startWall results w).2 := by
  unfold durationMetric
  split
  · exact inv_metric _ _
  · exact Sim.refl _

theorem inv_setTargetVersion (nv : List (Bytes × Option Bytes)) (w : World) : Sim w (setTargetVersion nv w) := by
  unfold setTargetVersion
  split
  · exact inv_storeOp_ _ _
  · exact Sim.refl _

end Omaha.SM
