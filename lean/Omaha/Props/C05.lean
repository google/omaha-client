/-
C05 — Policy consent gates every network, install and reboot action.
-/
import Omaha.Lemmas.SMRequests
import Omaha.Props.C04

namespace Omaha.SM

open Omaha

theorem valid_iff (a : App) : valid a = true ↔ a.id ≠ [] ∧ a.version ≠ ⟨0, 0, 0, 0⟩ := by
  unfold valid
  cases h : a.id <;> simp

/-- **invalid_apps_inert.** If any app has an empty id or version 0.0.0.0, `run` does nothing at all:
no policy question, no timer, no request. -/
theorem invalid_apps_inert (w : World) (h : ∃ a ∈ w.apps, a.id = [] ∨ a.version = ⟨0, 0, 0, 0⟩) :
    runStart w = none := by
  obtain ⟨a, ha, hbad⟩ := h
  have : w.apps.all valid = false :=
    List.all_eq_false.2 ⟨a, ha, fun hv => hbad.elim ((valid_iff a).1 hv).1 ((valid_iff a).1 hv).2⟩
  simp [runStart, this]

theorem valid_apps_start (w : World) (h : ∀ a ∈ w.apps, a.id ≠ [] ∧ a.version ≠ ⟨0, 0, 0, 0⟩) :
    (runStart w).isSome := by
  have : w.apps.all valid = true := List.all_eq_true.2 fun a ha => (valid_iff a).2 (h a ha)
  simp [runStart, this]

/-- The request says what the parameters say: install source (and hence the interactivity header,
which the builder derives from it), and update-check flags wherever an update check is present. -/
def CarriesParams (params : RequestParams) : Action → Prop
  | .http r _ => r.source = params.source ∧
      ∀ x ∈ r.apps, x.updateCheck = none ∨ x.updateCheck = some (params.disableUpdates, params.offerUpdateIfSameVersion)
  | _ => True

theorem carries_of_canon (params : RequestParams) (session : Nat) (a : Action)
    (h : HttpFrom (Canon params session) a) : CarriesParams params a := by
  cases a with
  | http r o =>
    obtain ⟨b, n, ⟨hp, _, he⟩, hr⟩ := h
    rw [hr]
    refine ⟨congrArg RequestParams.source hp, fun x hx => ?_⟩
    obtain ⟨e, hem, rfl⟩ := List.mem_map.1 hx
    exact he e hem
  | _ => trivial

/-- **params_on_every_request.** Every request the check puts on the wire — each update-check
attempt including retries, and each event report — carries the check's parameters. -/
theorem check_requests_carry_params (params : RequestParams) (apps : List App) (w : World) :
    Adds (CarriesParams params) w (performUpdateCheck params apps w).2 :=
  (addsR_performUpdateCheck params apps w).mono (carries_of_canon params _)

/-- In `run`, those parameters are the ones of the policy's positive answer. -/
theorem run_check_uses_policy_params (u : UnitEnv) (opts : InstallSource) (ctl : Option Nat) (w : World)
    (params : RequestParams) (h : u.allow = .ok params ∨ u.allow = .okUpdateDeferred params) :
    (decideAndCheck u opts ctl w).2 =
      (afterCheck u (upgradeOpts u.during opts)
        (startUpdateCheck params (replyDuring u.during (replyCtl ctl .started
          (emit (.policyAllowed w.apps w.ctx.sched w.ctx.st opts u.allow) w)))).1
        (startUpdateCheck params (replyDuring u.during (replyCtl ctl .started
          (emit (.policyAllowed w.apps w.ctx.sched w.ctx.st opts u.allow) w)))).2).2 := by
  unfold decideAndCheck
  rcases h with h | h <;> simp [h]

def AllUc (params : RequestParams) (b : Request.Builder) : Prop :=
  b.params = params ∧ ∀ e ∈ b.entries, e.updateCheck = some (params.disableUpdates, params.offerUpdateIfSameVersion)

theorem allUc_checkFold (params : RequestParams) (apps : List App) (b : Request.Builder) (h : AllUc params b) :
    AllUc params (apps.foldl (fun b app => (b.apply (.updateCheck app)).apply (.ping app)) b) := by
  induction apps generalizing b with
  | nil => exact h
  | cons a rest ih =>
    refine ih _ ⟨h.1, ?_⟩
    simp only [Request.Builder.apply]
    rw [insertAndModify_twice _ _ (Request.setUc _) _ (fun _ => rfl), h.1]
    exact forall_mem_insertAndModify _ _ _ h.2 (fun _ _ => rfl)

theorem allUc_checkBuilder (params : RequestParams) (apps : List App) (session : Nat) :
    AllUc params (checkBuilder params apps session) :=
  allUc_checkFold params apps { params := params } ⟨rfl, fun _ h => by cases h⟩

/-- **uc_requests_flags.** Every attempt of the check's update-check request, retries included,
lists an update check for every entry, with the policy's flags and install source. -/
theorem attempts_carry_flags (params : RequestParams) (apps : List App) (session : Nat) (fuel attempt : Nat) (w : World) :
    Adds (HttpFrom (AllUc params)) w (attemptLoop fuel attempt (checkBuilder params apps session) w).2.2 :=
  addsB_attemptLoop (AllUc params) (fun _ _ h => h) fuel attempt _ w (allUc_checkBuilder params apps session)

/-- What may happen in an iteration of `run` up to and including a negative policy decision: the
pending reboot-duration report (metric, storage), the timing question and its announcement, timers,
the decision, replies. No request, no plan, no install, no reboot. -/
def tInert : Tag → Bool
  | .metric | .storage | .pNext | .schedEv | .timerArm | .timerFire | .pAllowed | .reply => true
  | _ => false

/-- **negative_decision_inert.** When the policy answers TooSoon, ThrottledByPolicy or
DeniedByPolicy, the iteration consists of the question and (for a requested check) the Throttled
reply — no request is sent, nothing is installed, no reboot. -/
theorem negative_decision_inert (u : UnitEnv) (opts : InstallSource) (ctl : Option Nat) (w : World)
    (h : u.allow = .tooSoon ∨ u.allow = .throttled ∨ u.allow = .denied) :
    AddsT tInert w (decideAndCheck u opts ctl w).2 ∧ (decideAndCheck u opts ctl w).1 = .completed := by
  unfold decideAndCheck
  rcases h with h | h | h <;> simp only [h] <;>
    exact ⟨(steps_replyCtl (S := { tag := tInert }) rfl (steps_emit rfl rfl (.refl w))).adds, trivial⟩

/-- Nothing is sent, installed or rebooted before the policy has been asked, in any iteration. -/
theorem before_decision_inert (u : UnitEnv) (rs : RunState) (w : World) :
    let w0 : World := { w with env := u.env, nTimer := 0 }
    let w1 := (waitedStep rs w0).2
    let w2 := updateNext u.next w1
    let w3 := (armWait u.next w2).2
    AddsT tInert w0 (tick u.wakeDt (outerWait (armWait u.next w2).1 u.wake w3).2) := by
  exact (steps_tick (S := { tag := tInert }) (steps_outerWait rfl (steps_armWait rfl (steps_updateNext rfl rfl
    (steps_waitedStep rfl rfl (.refl _)))))).adds

theorem runUnit_negative_inert (u : UnitEnv) (rs : RunState) (w : World)
    (h : u.allow = .tooSoon ∨ u.allow = .throttled ∨ u.allow = .denied) :
    AddsT tInert { w with env := u.env, nTimer := 0 } (runUnit u rs w).2.2 := by
  unfold runUnit
  simp only
  have hb := before_decision_inert u rs w
  split
  · exact hb
  · exact hb.trans (negative_decision_inert u _ _ _ h).1
  · exact hb.trans (negative_decision_inert u _ _ _ h).1

inductive Gate where
  | plan (answer : Option Nat)
  | canStart (plan : Nat) (d : UpdateDecision)
  | install (plan : Nat)
  | rebootNeeded (plan : Nat) (answer : Bool)
  deriving DecidableEq, Repr

def πGate : Action → Option Gate
  | .plan _ _ a => some (.plan a)
  | .policyCanStart p d => some (.canStart p d)
  | .install p _ _ => some (.install p)
  | .policyRebootNeeded p b => some (.rebootNeeded p b)
  | _ => none

def gates (w : World) : List Gate := proj πGate w

def NoGates (ok : Tag → Bool) : Prop :=
  ok .plan = false ∧ ok .pCanStart = false ∧ ok .install = false ∧ ok .pRebootNeeded = false

theorem πGate_none {ok : Tag → Bool} (h : NoGates ok) (a : Action) (ha : ok a.tag = true) : πGate a = none := by
  cases a with
  | plan => cases h.1.symm.trans ha
  | policyCanStart => cases h.2.1.symm.trans ha
  | install => cases h.2.2.1.symm.trans ha
  | policyRebootNeeded => cases h.2.2.2.symm.trans ha
  | _ => rfl

theorem gates_of_steps {ok : Tag → Bool} (hq : NoGates ok) {w w' : World} (h : Steps { tag := ok } w w') :
    gates w' = gates w := proj_of_addsT πGate h.adds (πGate_none hq)

theorem gates_emit (a : Action) (w : World) : gates (emit a w) = (πGate a).toList ++ gates w := proj_emit _ _ _
theorem gates_yield (e : Event) (w : World) : gates (yieldEv e w) = gates w := proj_emit _ _ _

/-- In the order they happen, oldest first. -/
def gatesOf (env : Env) : List Gate :=
  match env.plan with
  | none => [.plan none]
  | some p =>
    match env.canStart with
    | .ok => [.plan (some p), .canStart p .ok, .install p] ++
        (if noFailure env.results then [.rebootNeeded p env.rebootNeeded] else [])
    | d => [.plan (some p), .canStart p d]

def tEvState : Tag → Bool
  | .stateEv _ | .insterrEv | .progressEv => true
  | t => tQuiet t

theorem noGates_tQuiet : NoGates tQuiet := ⟨rfl, rfl, rfl, rfl⟩
theorem noGates_tBook : NoGates tBook := ⟨rfl, rfl, rfl, rfl⟩
theorem noGates_tEvState : NoGates tEvState := ⟨rfl, rfl, rfl, rfl⟩

theorem tQuiet_le_tEvState (t : Tag) (h : tQuiet t = true) : tEvState t = true := by
  cases t with
  | stateEv _ | insterrEv | progressEv => rfl
  | _ => exact h

theorem gates_reportEvent (params : RequestParams) (ev : Omaha.Event) (apps : List App) (session : Nat)
    (nv : List (Bytes × Option Bytes)) (ns : Option Nat) (w : World) :
    gates (reportEvent params ev apps session nv ns w) = gates w :=
  gates_of_steps noGates_tQuiet (reportEvent_quiet ..)

theorem gates_runInstall (planId : Nat) (w : World) : gates (runInstall planId w) = .install planId :: gates w := by
  unfold runInstall
  rw [gates_of_steps noGates_tEvState (steps_tick (steps_progressFold rfl (.refl _))), gates_emit]
  rfl

theorem finishInstall_gates (planId : Nat) (firstSeen finish : Int) (nv : List (Bytes × Option Bytes))
    (response : Resp.Response) (results : List AppResult) (w : World) :
    gates (finishInstall planId firstSeen finish nv response results w).2 =
      (if noFailure results then
        [.rebootNeeded planId (finishInstall planId firstSeen finish nv response results w).2.env.rebootNeeded]
       else []) ++ gates w := by
  cases hn : noFailure results
  · rw [finishInstall_failed hn]
    exact gates_of_steps noGates_tEvState (steps_yield rfl (steps_insterrFold rfl (.refl w)))
  · rw [finishInstall_ok hn]
    unfold recordFinish
    rw [gates_emit, gates_of_steps noGates_tQuiet (steps_storeOp_ rfl (steps_setTargetVersion rfl (steps_setTime rfl
      (steps_firstSeenMetric rfl (.refl w)))))]
    rfl

theorem installPhase_gates (params : RequestParams) (apps : List App) (session : Nat)
    (nv : List (Bytes × Option Bytes)) (response : Resp.Response) (planId : Nat) (w : World) :
    gates (installPhase params apps session nv response planId w).2 =
      (if noFailure w.env.results then [.rebootNeeded planId w.env.rebootNeeded] else []) ++
        .install planId :: gates w := by
  obtain ⟨firstSeen, ns, w2, w4, h2, h4, e⟩ := installPhase_parts params apps session nv response planId w
  have f := (installPhase_frame params apps session nv response planId w).rebootNeeded
  rw [e] at f ⊢
  rw [finishInstall_gates, f,
    gates_of_steps noGates_tQuiet (reportInstall_quiet ..),
    gates_of_steps noGates_tBook h4, gates_runInstall, gates_of_steps noGates_tBook h2, gates_reportEvent, gates_yield]

theorem UpdateRun.gates_eq {params : RequestParams} {apps : List App} {session : Nat} {r : Resp.Response} {w : World}
    {p : Path} {res : CheckResult × World} (h : UpdateRun params apps session r w p res) :
    gates res.2 = (gatesOf w.env).reverse ++ gates w := by
  unfold gatesOf
  cases h with
  | planFailed hp => rw [hp, planFailedPhase, gates_reportEvent, gates_yield, gates_yield, gates_emit]; rfl
  | deferred planId hp hc => rw [hp, hc, deferredPhase, gates_yield, gates_reportEvent, gates_emit, gates_emit]; rfl
  | denied planId hp hc => rw [hp, hc, deniedPhase, gates_reportEvent, gates_emit, gates_emit]; rfl
  | installed planId hp hc =>
    rw [hp, hc, installPhase_gates, gates_emit, gates_emit]
    show (if noFailure w.env.results then _ else _) ++ _ = _
    cases noFailure w.env.results <;> rfl

/-- **install_only_after_ok / reboot question only on full success.** For every world and
environment, the plan / decision / install / reboot-needed actions of the update path are exactly
`gatesOf`: the installer runs iff the policy answered Ok for that plan, after that answer; a
deferral or denial is followed by no install; the reboot-needed question is asked iff the install
ran and no app failed. -/
theorem updatePhase_gates (params : RequestParams) (apps : List App) (session : Nat) (response : Resp.Response)
    (w : World) : gates (updatePhase params apps session response w).2 = (gatesOf w.env).reverse ++ gates w :=
  (updatePhase_run params apps session response w).gates_eq

theorem install_iff (env : Env) :
    (∃ p, Gate.install p ∈ gatesOf env) ↔ (∃ p, env.plan = some p) ∧ env.canStart = .ok := by
  unfold gatesOf
  cases env.plan with
  | none => simp
  | some p => cases env.canStart <;> simp

theorem install_after_ok (env : Env) (p : Nat) (h : Gate.install p ∈ gatesOf env) :
    ∃ rest, gatesOf env = [.plan (some p), .canStart p .ok, .install p] ++ rest := by
  unfold gatesOf at h ⊢
  cases hp : env.plan with
  | none => simp [hp] at h
  | some q =>
    simp only [hp] at h ⊢
    cases hc : env.canStart <;> simp [hc] at h ⊢
    exact h.symm

theorem rebootNeeded_iff (env : Env) :
    (∃ p b, Gate.rebootNeeded p b ∈ gatesOf env) ↔
      (∃ p, env.plan = some p) ∧ env.canStart = .ok ∧ noFailure env.results = true := by
  unfold gatesOf
  cases env.plan with
  | none => simp
  | some p =>
    cases env.canStart <;> simp

/-- The reboot wait says "reboot now" only as its very last step, right after the policy answered
`true` to "may I reboot now" — so the most recent answer is yes. -/
theorem rebootLoop_true_last (opts : InstallSource) (t30 : Nat) (pingNeed : List Nat) (steps : List (WaitStep × Clock))
    (answers : List Bool) (nexts : List Timing) (w : World)
    (h : (rebootLoop opts t30 pingNeed steps answers nexts w).1 = some true) :
    ∃ o rest, (rebootLoop opts t30 pingNeed steps answers nexts w).2.trace = .policyRebootAllowed o true :: rest := by
  -- each branch ends with a positive answer, goes on with the rest of the script, or does not return `some true`
  fun_induction rebootLoop opts t30 pingNeed steps answers nexts w <;>
    first | exact ⟨_, _, rfl⟩ | (rename_i ih; exact ih h) | cases h

theorem rebootWait_true_last (opts : InstallSource) (u : UnitEnv) (w : World)
    (h : (rebootWait opts u w).1 = some true) :
    ∃ o rest, (rebootWait opts u w).2.trace = .policyRebootAllowed o true :: rest := by
  rw [rebootWait] at h ⊢
  cases ha : (popBool u.rebootAllowed).1 with
  | true => exact ⟨opts, _, rfl⟩
  | false =>
    rw [ha] at h
    exact rebootLoop_true_last _ _ _ _ _ _ _ h

/-- **reboot_gate.** `wait_for_reboot` calls the installer's reboot iff the wait ended with the
policy's most recent answer being yes; the reboot call is then the next action after that answer,
and no other reboot call is made. -/
theorem waitForReboot_reboot (opts : InstallSource) (u : UnitEnv) (w : World) :
    ((waitForReboot opts u w).1 = some true →
      ∃ o rest, (waitForReboot opts u w).2.trace = .reboot u.rebootOk :: .policyRebootAllowed o true :: rest) ∧
    ((waitForReboot opts u w).1 ≠ some true → AddsT tRebootWait w (waitForReboot opts u w).2) := by
  unfold waitForReboot doReboot
  have hl := rebootWait_true_last opts u w
  have ha := (steps_rebootWait (S := ⟨tRebootWait, fun _ => True, true⟩) (opts := opts) (u := u) (fun _ h => h) rfl
    (fun _ => trivial) (.refl w)).adds
  generalize rebootWait opts u w = p at hl ha
  obtain ⟨d, w1⟩ := p
  cases d with
  | none => exact ⟨fun h => by simp at h, fun _ => ha⟩
  | some b =>
    cases b with
    | false => exact ⟨fun h => by simp at h, fun _ => ha⟩
    | true =>
      refine ⟨fun _ => ?_, fun h => absurd rfl h⟩
      obtain ⟨o, rest, hr⟩ := hl rfl
      exact ⟨o, rest, by simp only [emit] at hr ⊢; simp [hr]⟩

/-- The reboot wait — and with it any ping and any reboot — is entered only when the check reported
that a reboot is pending; by `performUpdateCheck_result` that is exactly an install in which no
app failed and for which the policy said a reboot is needed. -/
theorem afterCheck_no_reboot (u : UnitEnv) (opts : InstallSource) (w : World) :
    (afterCheck u opts (some false) w).2 = yieldEv (.state .idle) w ∧ (afterCheck u opts none w).2 = w := by
  unfold afterCheck; exact ⟨rfl, rfl⟩

/-! ### Non-vacuity -/

example : gatesOf { plan := some 3, canStart := .ok, results := [.installed, .deferred], rebootNeeded := true } =
    [.plan (some 3), .canStart 3 .ok, .install 3, .rebootNeeded 3 true] := by decide

example : gatesOf { plan := some 3, canStart := .denied, results := [.installed], rebootNeeded := true } =
    [.plan (some 3), .canStart 3 .denied] := by decide

example : gatesOf { plan := some 3, canStart := .ok, results := [.installed, .failed 1], rebootNeeded := true } =
    [.plan (some 3), .canStart 3 .ok, .install 3] := by decide

example : valid { id := [], version := ⟨1, 0, 0, 0⟩ } = false ∧ valid { id := [97], version := ⟨0, 0, 0, 0⟩ } = false ∧
    valid { id := [97], version := ⟨0, 0, 0, 1⟩ } = true := by decide

end Omaha.SM
