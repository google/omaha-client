/-
C18 — Update-attempt bookkeeping spans attempts and reboots.
-/
import Omaha.Lemmas.Store
import Omaha.Lemmas.Dec

namespace Omaha.SM

open Omaha

/-- **first_seen_stable (same plan).** While the stored plan id is this plan's, the attempt neither
writes nor commits anything, and the first-seen time it uses is the stored one. -/
theorem recordFirstSeen_same (planId : Bytes) (now : Int) (w : World) (t : Int)
    (hp : w.store.getString kInstallPlanId = some planId) (ht : w.store.getTime kFirstSeen = some t) :
    recordFirstSeen planId now w = (t, w) := by
  unfold recordFirstSeen samePlan
  simp [hp, ht]

/-- A restarted state machine sees the same plan id and first-seen time (after `recordFirstSeen_new`
nothing is pending). -/
theorem crash_keeps_committed (s : Store) (k : Bytes) (h : s.pending = []) : (s.crash).get k = s.get k := by
  unfold Store.crash Store.get
  simp [h]

theorem kPlan_ne_kFirstSeen : kInstallPlanId ≠ kFirstSeen := by
  rw [kInstallPlanId, kFirstSeen, Bytes.ofString_ofList, Bytes.ofString_ofList]
  decide

/-- **first_seen_stable (different plan).** With a working storage, an attempt at a plan other than
the recorded one records the new id and the current time, committed at once — so that from then
on (and after any crash) `recordFirstSeen_same` applies with exactly this time at microsecond
precision. -/
theorem recordFirstSeen_new (planId : Bytes) (now : Int) (w : World) (q : Int)
    (hn : samePlan w planId = false) (hs : NoStoreFail w) (hq : Time.toMicros now = some q) :
    let w' := (recordFirstSeen planId now w).2
    (recordFirstSeen planId now w).1 = now ∧
    w'.store.pending = [] ∧
    w'.store.getString kInstallPlanId = some planId ∧
    w'.store.getTime kFirstSeen = some (Time.fromMicros q) := by
  intro w'
  -- every operation succeeds: the attempt is the batch of the two writes and the commit
  have e : recordFirstSeen planId now w =
      (now, storeOps [.set kInstallPlanId (.str planId), .set kFirstSeen (.int q), .commit] w) := by
    obtain ⟨h1, hs1, _⟩ := storeOp_ok (.set kInstallPlanId (.str planId)) w hs
    obtain ⟨h2, _, _⟩ := storeOp_ok (.set kFirstSeen (.int q)) _ hs1
    unfold recordFirstSeen recordNewPlan setTime
    rw [setOptionInt_eq, hq, hn, h1, optOp, h2]
    rfl
  have hst : w'.store = runOps [.set kInstallPlanId (.str planId), .set kFirstSeen (.int q), .commit] w.store := by
    show (recordFirstSeen planId now w).2.store = _
    rw [e, (storeOps_ok _ w hs).2]
  refine ⟨by rw [e], by rw [hst]; rfl, ?_, ?_⟩
  · simp only [Store.getString, hst, runOps, List.foldl, applyOp_get, if_neg (Ne.symm kPlan_ne_kFirstSeen), ↓reduceIte]
  · simp only [Store.getTime, Store.getInt, hst, runOps, List.foldl, applyOp_get, ↓reduceIte, Option.map_some]

theorem firstSeenMetric_value (firstSeen finish : Int) (w : World) (h : firstSeen ≤ finish) :
    (firstSeenMetric firstSeen finish w).trace = .metric (.successfulUpdateFromFirstSeen (finish - firstSeen).toNat) :: w.trace := by
  unfold firstSeenMetric; simp [h, metric, emit]

/-- **install_attempts (when).** The attempt counter is touched — and the metric emitted — exactly
for checks in which some app failed to install (`some false`) or, failing that, some app was
installed (`some true`). -/
theorem installSuccess_spec (rs : List AppResp) :
    installSuccess rs =
      if rs.any (fun r => r.result == .installError) then some false
      else if rs.any (fun r => r.result == .updated) then some true
      else none := by
  unfold installSuccess
  have key : ∀ (acc : Option Bool) (rs : List AppResp),
      rs.foldl (fun acc r => match acc, r.result with
        | _, .installError => some false
        | none, .updated => some true
        | acc, _ => acc) acc =
      if rs.any (fun r => r.result == .installError) then some false
      else match acc with
        | some b => some b
        | none => if rs.any (fun r => r.result == .updated) then some true else none := by
    intro acc rs
    induction rs generalizing acc with
    | nil => cases acc <;> rfl
    | cons r rest ih =>
      rw [List.foldl_cons, ih, List.any_cons, List.any_cons]
      cases r.result with
      -- an install error gives `some false` whatever follows; with any other result both sides compute
      | installError => cases acc <;> exact ite_self _
      | _ => cases acc <;> rfl
  exact key none rs

theorem reportAttemptsInstall_trace (success : Bool) (w : World) (n : Int)
    (hn : (w.store.getInt kFailedInstalls).getD 0 = n) (h0 : 0 ≤ n) (hmax : n < i64Max) :
    ∃ ok, (reportAttemptsInstall success w).trace =
      [.storage (if success then .remove kFailedInstalls else .set kFailedInstalls (.int (n + 1))) ok,
       .metric (.attemptsToSuccessfulInstall (n + 1).toNat success)] ++ w.trace := by
  unfold reportAttemptsInstall
  simp only [hn, if_neg (Int.not_lt.2 (Int.add_one_le_of_lt hmax)), if_neg (Int.not_lt.2 (Int.le_add_one h0))]
  cases success <;> exact ⟨_, storeOp_trace _ _⟩

/-- **install_attempts (how).** The count reported is the stored count plus one (saturating); a
failure stores it, a success removes the key. -/
theorem reportAttemptsInstall_spec (success : Bool) (w : World) (n : Int) (hn : w.store.getInt kFailedInstalls = some n)
    (h0 : 0 ≤ n) (hmax : n < i64Max) :
    ∃ ok, (reportAttemptsInstall success w).trace =
      [.storage (if success then .remove kFailedInstalls else .set kFailedInstalls (.int (n + 1))) ok,
       .metric (.attemptsToSuccessfulInstall (n + 1).toNat success)] ++ w.trace :=
  reportAttemptsInstall_trace success w n (by rw [hn]; rfl) h0 hmax

theorem reportAttemptsInstall_first (success : Bool) (w : World) (hn : w.store.getInt kFailedInstalls = none) :
    ∃ ok, (reportAttemptsInstall success w).trace =
      [.storage (if success then .remove kFailedInstalls else .set kFailedInstalls (.int 1)) ok,
       .metric (.attemptsToSuccessfulInstall 1 success)] ++ w.trace :=
  reportAttemptsInstall_trace success w 0 (by rw [hn]; rfl) (Int.le_refl 0) (by decide)

/-- The key/value written as target version: the system app's manifest version (or "UNKNOWN" when
the manifest has none), and only when the system app was offered an update. -/
theorem setTargetVersion_spec (nv : List (Bytes × Option Bytes)) (w : World) :
    (setTargetVersion nv w).trace =
      match lookup w.sysApp nv with
      | some next => .storage (.set kTargetVersion (.str (next.getD (Bytes.ofString "UNKNOWN"))))
          (storeOp (.set kTargetVersion (.str (next.getD (Bytes.ofString "UNKNOWN")))) w).1 :: w.trace
      | none => w.trace := by
  unfold setTargetVersion
  cases lookup w.sysApp nv with
  | some next => exact storeOp_trace _ _
  | none => rfl

/-- **finish_before_reboot.** After an install with no failed app: the finish time (when it fits
storage) and the system app's target version are written and a commit is issued *before* the
policy is asked whether a reboot is needed — and hence before any reboot (`afterCheck`). -/
theorem recordFinish_order (planId : Nat) (firstSeen finish : Int) (nv : List (Bytes × Option Bytes)) (w : World) :
    ∃ ok1 okc okt, (recordFinish planId firstSeen finish nv w).2.trace =
      .policyRebootNeeded planId (recordFinish planId firstSeen finish nv w).1 ::
      .storage .commit okc ::
      ((match lookup w.sysApp nv with
        | some next => [.storage (.set kTargetVersion (.str (next.getD (Bytes.ofString "UNKNOWN")))) okt]
        | none => []) ++
      .storage (optOp kFinishTime (Time.toMicros finish)) ok1 :: (firstSeenMetric firstSeen finish w).trace) := by
  -- the system app's id is the same all the way
  have hsys : (setTime kFinishTime finish (firstSeenMetric firstSeen finish w)).2.sysApp = w.sysApp :=
    ((inv_firstSeenMetric firstSeen finish w).trans (inv_setTime kFinishTime finish _)).sysApp.symm
  unfold recordFinish
  simp only [emit, storeOp_, storeOp_trace, setTargetVersion_spec, hsys]
  cases lookup w.sysApp nv with
  | none => exact ⟨_, _, true, by simp only [setTime, setOptionInt_eq, storeOp_trace]; rfl⟩
  | some next => exact ⟨_, _, _, by simp only [setTime, setOptionInt_eq, storeOp_trace]; rfl⟩

/-- **waited (whether to report).** The report is pending exactly when a finish time is readable
and the stored target version is the version this state machine runs on. -/
theorem runStart_shouldReport (w : World) (rs : RunState) (h : runStart w = some rs) :
    rs.shouldReport = true ↔
      (w.store.getTime kFinishTime).isSome ∧ w.store.getString kTargetVersion = some w.cfg.os.version := by
  unfold runStart at h
  split at h
  · cases h
  · cases h
    rw [Bool.and_eq_true]
    refine and_congr_right fun _ => ?_
    cases w.store.getString kTargetVersion <;> simp

/-- **waited (value).** The duration reported is (wall now − finish) − (monotonic now − monotonic at
start); it is reported only when the wall clock is not before the finish time, the monotonic
clock not before the start, and the difference not negative. -/
theorem reportWaited_spec (finish startMono : Int) (w : World) :
    reportWaited finish startMono w =
      if finish ≤ w.clock.wall ∧ startMono ≤ w.clock.mono ∧ (w.clock.mono - startMono) ≤ (w.clock.wall - finish)
      then some (metric (.waitedForReboot ((w.clock.wall - finish) - (w.clock.mono - startMono)).toNat) w)
      else none := by
  unfold reportWaited
  simp only
  by_cases h1 : w.clock.wall < finish
  · rw [if_pos h1, if_neg fun h => Int.not_le.2 h1 h.1]
  by_cases h2 : w.clock.mono < startMono
  · rw [if_neg h1, if_pos h2, if_neg fun h => Int.not_le.2 h2 h.2.1]
  -- both differences are non-negative: as naturals they compare and subtract as the integers do
  have ha : 0 ≤ w.clock.wall - finish := Int.sub_nonneg.2 (Int.not_lt.1 h1)
  have hb : 0 ≤ w.clock.mono - startMono := Int.sub_nonneg.2 (Int.not_lt.1 h2)
  rw [if_neg h1, if_neg h2, ← Int.toNat_sub', Int.toNat_of_nonneg hb]
  by_cases h3 : (w.clock.wall - finish).toNat < (w.clock.mono - startMono).toNat
  · rw [if_pos h3, if_neg fun h => Nat.not_le.2 h3 (Int.toNat_le_toNat h.2.2)]
  · rw [if_neg h3, if_pos ⟨Int.not_lt.1 h1, Int.not_lt.1 h2,
      Int.not_lt.1 fun hlt => h3 ((Int.toNat_lt_toNat (Int.lt_of_le_of_lt ha hlt)).2 hlt)⟩]

/-- **unaffected by later delays.** If, since the state machine started, the wall clock and the
monotonic clock advanced by the same amount `δ`, the value reported is the wait from the finish
time to the *start* of the state machine, whenever the report is computed. -/
theorem waited_independent_of_delay (finish startMono wallAtStart : Int) (δ : Int) (w : World)
    (hw : w.clock.wall = wallAtStart + δ) (hm : w.clock.mono = startMono + δ) (hδ : 0 ≤ δ) (hf : finish ≤ wallAtStart) :
    reportWaited finish startMono w = some (metric (.waitedForReboot (wallAtStart - finish).toNat) w) := by
  rw [reportWaited_spec, hw, hm, if_pos (by omega),
    show wallAtStart + δ - finish - (startMono + δ - startMono) = wallAtStart - finish by omega]

/-- **waited_reported_once.** When the report succeeds: the metric, removal of both keys, a commit —
and the flag is cleared, so no later iteration reports again. When it is not pending or cannot be
computed (clocks inconsistent): nothing is reported, nothing is removed, and the flag is unchanged
(it is tried again on the next iteration). -/
theorem waitedStep_spec (rs : RunState) (w : World) :
    (∀ fin w1, rs.shouldReport = true → rs.finishTime = some fin → reportWaited fin rs.startMono w = some w1 →
      (waitedStep rs w).1.shouldReport = false ∧
      ∃ o1 o2 o3, (waitedStep rs w).2.trace =
        [.storage .commit o3, .storage (.remove kTargetVersion) o2, .storage (.remove kFinishTime) o1] ++ w1.trace) ∧
    ((rs.shouldReport = false ∨ rs.finishTime = none ∨ ∃ fin, rs.finishTime = some fin ∧ reportWaited fin rs.startMono w = none) →
      waitedStep rs w = (rs, w)) := by
  constructor
  · intro fin w1 hs hf hr
    unfold waitedStep
    simp only [hs, if_true, hf, hr, storeOp_, storeOp_trace]
    exact ⟨trivial, _, _, _, rfl⟩
  · intro h
    unfold waitedStep
    rcases h with h | h | ⟨fin, hf, hr⟩
    · simp [h]
    · cases hs : rs.shouldReport <;> simp [h]
    · cases hs : rs.shouldReport <;> simp [hf, hr]

example : installSuccess [{ id := [1], cohort := {}, userCounting := none, result := .updated },
    { id := [2], cohort := {}, userCounting := none, result := .installError }] = some false := by decide

example : installSuccess [{ id := [1], cohort := {}, userCounting := none, result := .deferredByPolicy },
    { id := [2], cohort := {}, userCounting := none, result := .noUpdate }] = none := by decide

end Omaha.SM
