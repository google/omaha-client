/-
Tag-bounded trace extension: `AddsT ok w w'` says `w'` extends the trace of `w` by actions whose
kinds ("tags") all lie in `ok`; the tag sets of the parts of the model; and the projection principle:
a projection that ignores every tag a stretch of execution may log is unchanged by it
(`proj_of_addsT`).
-/
import Omaha.Lemmas.SMTrace

namespace Omaha.SM

open Omaha

inductive Tag where
  | stateEv (s : State) | schedEv | protoEv | resultEv | progressEv | responseEv | insterrEv
  | pNext | pAllowed | pCanStart | pRebootAllowed | pRebootNeeded
  | http (k : ReqKind) | buildErr | timerArm | timerFire | plan | install | reboot | storage
  | metric | reply
  deriving DecidableEq, Repr

def Action.tag : Action → Tag
  | .event (.state s) => .stateEv s
  | .event (.schedule _) => .schedEv
  | .event (.protocol _) => .protoEv
  | .event (.result _) => .resultEv
  | .event (.progress _) => .progressEv
  | .event (.serverResponse _) => .responseEv
  | .event (.installerError _) => .insterrEv
  | .policyNext .. => .pNext
  | .policyAllowed .. => .pAllowed
  | .policyCanStart .. => .pCanStart
  | .policyRebootAllowed .. => .pRebootAllowed
  | .policyRebootNeeded .. => .pRebootNeeded
  | .http r _ => .http r.kind
  | .buildError .. => .buildErr
  | .timerArm _ => .timerArm
  | .timerFire _ => .timerFire
  | .plan .. => .plan
  | .install .. => .install
  | .reboot _ => .reboot
  | .storage .. => .storage
  | .metric _ => .metric
  | .reply .. => .reply

def AddsT (ok : Tag → Bool) (w w' : World) : Prop := Adds (fun a => ok a.tag = true) w w'

theorem AddsT.refl (ok) (w : World) : AddsT ok w w := Adds.refl _ _
theorem AddsT.of_eq (ok) (w w' : World) (h : w'.trace = w.trace) : AddsT ok w w' := Adds.of_eq_trace _ _ _ h
theorem AddsT.trans {ok} {w1 w2 w3 : World} (h1 : AddsT ok w1 w2) (h2 : AddsT ok w2 w3) : AddsT ok w1 w3 :=
  Adds.trans h1 h2
theorem addsT_emit (ok : Tag → Bool) (a : Action) (w : World) (h : ok a.tag = true) : AddsT ok w (emit a w) :=
  adds_emit _ _ _ h

def tStorage : Tag → Bool
  | .storage => true
  | _ => false

def tNoHttp : Tag → Bool
  | .http _ => false
  | _ => true

/-- One request of kind `k`: the exchange, a poll-interval announcement, storage. -/
def tReq (k : ReqKind) : Tag → Bool
  | .http k' => k' == k
  | .protoEv | .storage | .buildErr => true
  | _ => false

/-- A report: a request of kind `eventReport` and lost-event metrics. -/
def tReport : Tag → Bool
  | .http k' => k' == .eventReport
  | .protoEv | .storage | .buildErr | .metric => true
  | _ => false

/-- The attempt loop: update-check requests, response-time metrics, back-off timers, the error
state. -/
def tLoop : Tag → Bool
  | .http k' => k' == .updateCheck
  | .protoEv | .storage | .buildErr | .metric | .timerArm => true
  | .stateEv s => s == .errorChecking
  | _ => false

/-- Tags of everything that can happen between the check's first event and its closing events. -/
def tCheckBody : Tag → Bool
  | .stateEv s => s != .idle && s != .waitingForReboot
  | .protoEv | .progressEv | .responseEv | .insterrEv => true
  | .pCanStart | .pRebootNeeded => true
  | .http k => k != .ping
  | .buildErr | .timerArm | .plan | .install | .storage | .metric => true
  | _ => false

/-- Neither a state announcement, a closing event, a policy question about the check or the install,
a plan, an install, nor a reboot. -/
def tQuiet : Tag → Bool
  | .protoEv | .progressEv => true
  | .http k => k != .ping
  | .buildErr | .timerArm | .storage | .metric => true
  | _ => false

def tQuietI : Tag → Bool
  | .install => true
  | t => tQuiet t

theorem tQuiet_le_tQuietI (t : Tag) (h : tQuiet t = true) : tQuietI t = true := by
  cases t with
  | install => rfl
  | _ => exact h

def tQuietR : Tag → Bool
  | .pRebootNeeded => true
  | t => tQuiet t

/-- What the reboot wait may do: ask the policy (reboot allowed, next timing), arm and see timers
fire, answer control requests, ping (one request of kind ping, schedule / protocol events,
storage). The reboot itself is not included. -/
def tRebootWait : Tag → Bool
  | .pRebootAllowed | .timerArm | .timerFire | .pNext | .schedEv | .reply => true
  | .http k => k == .ping
  | .storage | .protoEv | .buildErr => true
  | _ => false

/-- A ping: one request of kind ping, a schedule event, protocol events, storage. -/
def tPing : Tag → Bool
  | .http k => k == .ping
  | .schedEv | .storage | .protoEv | .buildErr => true
  | _ => false

theorem tPing_le (t : Tag) (h : tPing t = true) : tRebootWait t = true := by
  cases t with
  | http k => exact h
  | schedEv | storage | protoEv | buildErr => rfl
  | _ => cases h

def tReboot : Tag → Bool
  | .reboot => true
  | t => tRebootWait t

theorem tRebootWait_le (t : Tag) (h : tRebootWait t = true) : tReboot t = true := by
  cases t with
  | reboot => rfl
  | _ => exact h

def tBook : Tag → Bool
  | .storage | .metric => true
  | _ => false

def proj {β} (π : Action → Option β) (w : World) : List β := w.trace.filterMap π

theorem proj_emit {β} (π : Action → Option β) (a : Action) (w : World) :
    proj π (emit a w) = (π a).toList ++ proj π w := by
  unfold proj emit
  simp only [List.filterMap_cons]
  cases π a <;> simp

theorem proj_of_addsT {β} (π : Action → Option β) {ok : Tag → Bool} {w w' : World} (h : AddsT ok w w')
    (hπ : ∀ a, ok a.tag = true → π a = none) : proj π w' = proj π w := by
  obtain ⟨d, e, p⟩ := h
  unfold proj
  rw [e, List.filterMap_append]
  have : d.filterMap π = [] := by
    rw [List.filterMap_eq_nil_iff]
    intro a ha; exact hπ a (p a ha)
  simp [this]

/-- Everything any function of the model does extends the trace. -/
def tAny : Tag → Bool := fun _ => true

theorem suffix_of_addsT {ok : Tag → Bool} {w w' : World} (h : AddsT ok w w') : ∃ d, w'.trace = d ++ w.trace := by
  obtain ⟨d, e, _⟩ := h; exact ⟨d, e⟩

theorem proj_foldl_emit {α β} (π : Action → Option β) (f : α → Action) (g : α → β) (hπ : ∀ x, π (f x) = some (g x))
    (l : List α) (w : World) :
    proj π (l.foldl (fun w x => emit (f x) w) w) = (l.map g).reverse ++ proj π w := by
  induction l generalizing w with
  | nil => rfl
  | cons x rest ih => rw [List.foldl_cons, ih, proj_emit, hπ]; simp

end Omaha.SM
