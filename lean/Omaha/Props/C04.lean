/-
C04 — Update-check flow: announced states and result match what happened.

The observables are the events of the stream.  `marks` is the projection of a trace on the
announcements the property speaks about (state changes, installer errors, the server response);
`pathOf` is the path the check took as a function of what the environment did (outcome of the
request phase, parse result, plan / policy / installer answers).  `ResponseRun` / `UpdateRun` say,
path by path, what the response phase runs; the announcements and the result (here), the install
gates (C05) and the event reports (C10) are read off them.  The central theorem
`performUpdateCheck_marks` says the announcements are exactly `pathMarks (pathOf …)`, for every
world and environment; the iff-clauses of the property are then read off `pathMarks`.
-/
import Omaha.Lemmas.SMChain
import Omaha.Props.C06

namespace Omaha.SM

open Omaha

inductive Mark where
  | state (s : State)
  | insterr (m : Nat)
  | response
  deriving DecidableEq, Repr

def πMark : Action → Option Mark
  | .event (.state s) => some (.state s)
  | .event (.installerError m) => some (.insterr m)
  | .event (.serverResponse _) => some .response
  | _ => none

def πEv : Action → Option Event
  | .event e => some e
  | _ => none

/-- Newest first. -/
def marks (w : World) : List Mark := proj πMark w

/-- Newest first. -/
def evs (w : World) : List Event := proj πEv w

def NoMarks (ok : Tag → Bool) : Prop :=
  (∀ s, ok (.stateEv s) = false) ∧ ok .insterrEv = false ∧ ok .responseEv = false

theorem πMark_none {ok : Tag → Bool} (h : NoMarks ok) (a : Action) (ha : ok a.tag = true) : πMark a = none := by
  cases a with
  | event e =>
    cases e with
    | state s => cases (h.1 s).symm.trans ha
    | installerError m => cases h.2.1.symm.trans ha
    | serverResponse r => cases h.2.2.symm.trans ha
    | _ => rfl
  | _ => rfl

theorem marks_of_addsT {ok : Tag → Bool} (hq : NoMarks ok) {w w' : World} (h : AddsT ok w w') : marks w' = marks w :=
  proj_of_addsT πMark h (πMark_none hq)

theorem marks_of_steps {ok : Tag → Bool} (hq : NoMarks ok) {w w' : World} (h : Steps { tag := ok } w w') :
    marks w' = marks w := marks_of_addsT hq h.adds

theorem noMarks_tQuiet : NoMarks tQuiet := ⟨fun _ => rfl, rfl, rfl⟩
theorem noMarks_tQuietI : NoMarks tQuietI := ⟨fun _ => rfl, rfl, rfl⟩
theorem noMarks_tQuietR : NoMarks tQuietR := ⟨fun _ => rfl, rfl, rfl⟩
theorem noMarks_tBook : NoMarks tBook := ⟨fun _ => rfl, rfl, rfl⟩
theorem noMarks_tStorage : NoMarks tStorage := ⟨fun _ => rfl, rfl, rfl⟩
theorem noMarks_tReboot : NoMarks tReboot := ⟨fun _ => rfl, rfl, rfl⟩

theorem marks_emit (a : Action) (w : World) : marks (emit a w) = (πMark a).toList ++ marks w := proj_emit _ _ _
theorem marks_yield (e : Event) (w : World) : marks (yieldEv e w) = (πMark (.event e)).toList ++ marks w := proj_emit _ _ _
theorem marks_metric (m : Metric) (w : World) : marks (metric m w) = marks w := proj_emit _ _ _

theorem marks_reportEvent (params : RequestParams) (ev : Omaha.Event) (apps : List App) (session : Nat)
    (nv : List (Bytes × Option Bytes)) (ns : Option Nat) (w : World) :
    marks (reportEvent params ev apps session nv ns w) = marks w :=
  marks_of_steps noMarks_tQuiet (reportEvent_quiet ..)

inductive Path where
  | noResponse (e : ReqErr)
  | unparseable
  | noUpdate (r : Resp.Response)
  | planFailed (r : Resp.Response)
  | deferred (r : Resp.Response)
  | denied (r : Resp.Response)
  | installed (r : Resp.Response) (plan : Nat) (results : List AppResult)
  | outside

def pathOf (res : Except ReqFail Bytes) (env : Env) : Path :=
  match res with
  | .error f => .noResponse f.err
  | .ok body =>
    match Resp.parseJsonResponse body with
    | .outside => .outside
    | .err => .unparseable
    | .ok r =>
      if (offeredApps r).isEmpty then .noUpdate r
      else
        match env.plan with
        | none => .planFailed r
        | some planId =>
          match env.canStart with
          | .deferred => .deferred r
          | .denied => .denied r
          | .ok => .installed r planId env.results

theorem pathOf_frame {w w' : World} (f : Frame w w') (res : Except ReqFail Bytes) : pathOf res w'.env = pathOf res w.env := by
  unfold pathOf
  rw [f.plan, f.canStart, f.results]

/-- In the order they are made, oldest first. -/
def pathMarks : Path → List Mark
  | .noResponse _ => [.state .errorChecking]
  | .unparseable => [.state .errorChecking]
  | .noUpdate _ => [.response, .state .noUpdate]
  | .planFailed _ => [.response, .state .installing, .state .installationError]
  | .deferred _ => [.response, .state .deferred]
  | .denied _ => [.response]
  | .installed _ _ results =>
    [.response, .state .installing] ++ (failedMessages results).map .insterr ++
      (if noFailure results then [] else [.state .installationError])
  | .outside => []

def updatePath (r : Resp.Response) (env : Env) : Path :=
  match env.plan with
  | none => .planFailed r
  | some planId =>
    match env.canStart with
    | .deferred => .deferred r
    | .denied => .denied r
    | .ok => .installed r planId env.results

inductive UpdateRun (params : RequestParams) (apps : List App) (session : Nat) (r : Resp.Response) (w : World) :
    Path → CheckResult × World → Prop
  | planFailed : w.env.plan = none →
      UpdateRun params apps session r w (.planFailed r)
        (planFailedPhase params apps session (nextVersions r) (emit (.plan params.source w.cup.isSome none) w))
  | deferred (planId : Nat) : w.env.plan = some planId → w.env.canStart = .deferred →
      UpdateRun params apps session r w (.deferred r)
        (deferredPhase params apps session (nextVersions r) r
          (emit (.policyCanStart planId .deferred) (emit (.plan params.source w.cup.isSome (some planId)) w)))
  | denied (planId : Nat) : w.env.plan = some planId → w.env.canStart = .denied →
      UpdateRun params apps session r w (.denied r)
        (deniedPhase params apps session (nextVersions r) r
          (emit (.policyCanStart planId .denied) (emit (.plan params.source w.cup.isSome (some planId)) w)))
  | installed (planId : Nat) : w.env.plan = some planId → w.env.canStart = .ok →
      UpdateRun params apps session r w (.installed r planId w.env.results)
        (installPhase params apps session (nextVersions r) r planId
          (emit (.policyCanStart planId .ok) (emit (.plan params.source w.cup.isSome (some planId)) w)))

theorem updatePhase_run (params : RequestParams) (apps : List App) (session : Nat) (r : Resp.Response) (w : World) :
    UpdateRun params apps session r w (updatePath r w.env) (updatePhase params apps session r w) := by
  unfold updatePhase updatePath
  simp only [emit_env]
  cases hp : w.env.plan with
  | none => exact .planFailed hp
  | some planId =>
    cases hc : w.env.canStart with
    | deferred => exact .deferred planId hp hc
    | denied => exact .denied planId hp hc
    | ok => exact .installed planId hp hc

inductive ResponseRun (params : RequestParams) (apps : List App) (session : Nat) (w : World) :
    Path → CheckResult × World → Prop
  | outside : ResponseRun params apps session w .outside (none, w)
  | unparseable : ResponseRun params apps session w .unparseable (parseFailedPhase params apps session w)
  | noUpdate (r : Resp.Response) :
      ResponseRun params apps session w (.noUpdate r) (noUpdatePhase r (yieldEv (.serverResponse r) w))
  | update (r : Resp.Response) {p : Path} {res : CheckResult × World} :
      UpdateRun params apps session r (yieldEv (.serverResponse r) w) p res → ResponseRun params apps session w p res

theorem responsePhase_run (params : RequestParams) (apps : List App) (session : Nat) (body : Bytes) (w : World) :
    ResponseRun params apps session w (pathOf (.ok body) w.env) (responsePhase params apps session body w) := by
  unfold responsePhase pathOf
  simp only
  cases Resp.parseJsonResponse body with
  | outside => exact .outside
  | err => exact .unparseable
  | ok r =>
    simp only
    cases (offeredApps r).isEmpty with
    | true => exact .noUpdate r
    | false => exact .update r (updatePhase_run params apps session r _)

theorem marks_insterrFold (ms : List Nat) (w : World) :
    marks (ms.foldl (fun w m => yieldEv (.installerError m) w) w) = (ms.map Mark.insterr).reverse ++ marks w :=
  proj_foldl_emit πMark (fun m => .event (.installerError m)) Mark.insterr (fun _ => rfl) ms w

theorem finishInstall_marks (planId : Nat) (firstSeen finish : Int) (nv : List (Bytes × Option Bytes))
    (response : Resp.Response) (results : List AppResult) (w : World) :
    marks (finishInstall planId firstSeen finish nv response results w).2 =
      (if noFailure results then [] else [Mark.state .installationError]) ++
        ((failedMessages results).map Mark.insterr).reverse ++ marks w := by
  cases hn : noFailure results
  · rw [finishInstall_failed hn, marks_yield, marks_insterrFold]; rfl
  · rw [finishInstall_ok hn, List.isEmpty_iff.1 ((failedMessages_isEmpty results).trans hn)]
    exact marks_of_steps noMarks_tQuietR (steps_recordFinish rfl rfl rfl (.refl w))

theorem installPhase_marks (params : RequestParams) (apps : List App) (session : Nat)
    (nv : List (Bytes × Option Bytes)) (response : Resp.Response) (planId : Nat) (w : World) {ms : List Mark}
    (hw : marks w = .response :: ms) :
    marks (installPhase params apps session nv response planId w).2 =
      (pathMarks (.installed response planId w.env.results)).reverse ++ ms := by
  obtain ⟨firstSeen, ns, w2, w4, h2, h4, e⟩ := installPhase_parts params apps session nv response planId w
  rw [e, finishInstall_marks,
    marks_of_steps noMarks_tQuiet (reportInstall_quiet ..),
    marks_of_steps noMarks_tBook h4, marks_of_steps noMarks_tQuietI (steps_runInstall rfl rfl (.refl w2)),
    marks_of_steps noMarks_tBook h2, marks_reportEvent, marks_yield, hw]
  cases hn : noFailure w.env.results <;> simp [pathMarks, πMark, hn]

section
variable {params : RequestParams} {apps : List App} {session : Nat} {r : Resp.Response} {w : World}
  {p : Path} {res : CheckResult × World}

/-- After the response's announcement, the update phase announces the rest of its path. -/
theorem UpdateRun.marks_eq (h : UpdateRun params apps session r w p res) {ms : List Mark}
    (hw : marks w = .response :: ms) : marks res.2 = (pathMarks p).reverse ++ ms := by
  cases h with
  | planFailed => rw [planFailedPhase, marks_reportEvent, marks_yield, marks_yield, marks_emit, hw]; rfl
  | deferred => rw [deferredPhase, marks_yield, marks_reportEvent, marks_emit, marks_emit, hw]; rfl
  | denied => rw [deniedPhase, marks_reportEvent, marks_emit, marks_emit, hw]; rfl
  | installed => exact installPhase_marks _ _ _ _ _ _ _ (by rw [marks_emit, marks_emit, hw]; rfl)

theorem ResponseRun.marks_eq (h : ResponseRun params apps session w p res) :
    marks res.2 = (pathMarks p).reverse ++ marks w := by
  cases h with
  | outside => rfl
  | unparseable => rw [parseFailedPhase, marks_reportEvent, marks_yield]; rfl
  | noUpdate => rw [noUpdatePhase, marks_yield, marks_yield]; rfl
  | update r hu => exact hu.marks_eq (marks_yield _ _)

end

theorem Attempts.marks_eq {attempt : Nat} {b : Request.Builder} {w : World} {r : Except ReqFail Bytes × Nat × World}
    (h : Attempts attempt b w r) : marks r.2.2 = (if isOk r.1 then [] else [.state .errorChecking]) ++ marks w := by
  have once : ∀ b w, marks (attemptOnce b w).2 = marks w := fun b w =>
    marks_of_steps noMarks_tQuiet (steps_attemptOnce rfl rfl rfl rfl rfl trivial (.refl w))
  induction h with
  | ok _ => exact once _ _
  | gaveUp _ _ => exact (marks_yield _ _).trans (congrArg _ (once _ _))
  | retry _ _ _ ih => rw [ih, marks_of_steps noMarks_tQuiet (steps_backoff rfl (.refl _)), once]

theorem attemptLoop_marks (fuel attempt : Nat) (b : Request.Builder) (w : World) (hf : fuel + attempt ≥ 4) (h1 : fuel ≥ 1) :
    marks (attemptLoop fuel attempt b w).2.2 =
      (if isOk (attemptLoop fuel attempt b w).1 then [] else [.state .errorChecking]) ++ marks w :=
  (attemptLoop_run fuel attempt b w hf h1).marks_eq

theorem requestPhase_frame (params : RequestParams) (apps : List App) (w : World) :
    Frame w (requestPhase params apps w).2.2 :=
  (steps_requestPhase (S := { tag := tCheckBody }) (fun _ h => h) (fun _ _ => trivial) (.refl w)).frame rfl

theorem requestPhase_marks (params : RequestParams) (apps : List App) (w : World) :
    marks (requestPhase params apps w).2.2 =
      (if isOk (requestPhase params apps w).1 then [] else [Mark.state .errorChecking]) ++
        .state (.checking params.source) :: marks w := by
  unfold requestPhase
  rw [attemptLoop_marks _ _ _ _ (by decide) (by decide)]
  exact congrArg _ ((marks_of_steps noMarks_tQuiet (steps_nextGuid (steps_reportCheckInterval rfl (.refl _)))).trans
    (marks_yield _ w))

/-- With a body, the check is the response phase, run after the request phase along the path the
script at the start determines. -/
theorem performUpdateCheck_run (params : RequestParams) (apps : List App) (w : World) {body : Bytes}
    (h : (requestPhase params apps w).1 = .ok body) :
    Frame w (metric (.requestsPerCheck (requestPhase params apps w).2.1 true) (requestPhase params apps w).2.2) ∧
    ResponseRun params apps (sessionOf params w)
      (metric (.requestsPerCheck (requestPhase params apps w).2.1 true) (requestPhase params apps w).2.2)
      (pathOf (.ok body) w.env) (performUpdateCheck params apps w) := by
  have hf := (requestPhase_frame params apps w).trans (frame_metric (.requestsPerCheck (requestPhase params apps w).2.1 true) _)
  rw [performUpdateCheck_eq, h, ← pathOf_frame hf]
  exact ⟨hf, responsePhase_run ..⟩

/-- **flow_shape (states in between name the path taken).** For every world and environment, the
announcements of an update check are: CheckingForUpdates, then exactly the announcements of the
path the check took. -/
theorem performUpdateCheck_marks (params : RequestParams) (apps : List App) (w : World) :
    marks (performUpdateCheck params apps w).2 =
      (pathMarks (pathOf (requestPhase params apps w).1 w.env)).reverse ++
        .state (.checking params.source) :: marks w := by
  cases h : (requestPhase params apps w).1 with
  | error f => rw [performUpdateCheck_eq, h, marks_metric, requestPhase_marks, h]; rfl
  | ok body => rw [(performUpdateCheck_run params apps w h).2.marks_eq, marks_metric, requestPhase_marks, h]; rfl

/-! ### The iff-clauses of the property, read off `pathMarks` -/

/-- A usable response: the request phase ended with a body and the body parsed. -/
def Path.usable : Path → Option Resp.Response
  | .noUpdate r | .planFailed r | .deferred r | .denied r | .installed r _ _ => some r
  | _ => none

theorem error_iff (p : Path) (hp : p ≠ .outside) :
    Mark.state .errorChecking ∈ pathMarks p ↔ p.usable = none := by
  cases p <;> simp [pathMarks, Path.usable] at *

/-- NoUpdateAvailable iff a usable response offered no update. -/
theorem noUpdate_iff (p : Path) : Mark.state .noUpdate ∈ pathMarks p ↔ ∃ r, p = .noUpdate r := by
  cases p <;> simp [pathMarks]

/-- InstallationDeferredByPolicy iff the policy deferred. -/
theorem deferred_iff (p : Path) : Mark.state .deferred ∈ pathMarks p ↔ ∃ r, p = .deferred r := by
  cases p <;> simp [pathMarks]

/-- InstallingUpdate iff an install plan was attempted (plan creation tried and failed, or the
install was started). -/
theorem installing_iff (p : Path) :
    Mark.state .installing ∈ pathMarks p ↔ (∃ r, p = .planFailed r) ∨ (∃ r n rs, p = .installed r n rs) := by
  cases p <;> simp [pathMarks]

theorem failedMessages_spec (rs : List AppResult) (m : Nat) : m ∈ failedMessages rs ↔ AppResult.failed m ∈ rs := by
  unfold failedMessages
  rw [List.mem_filterMap]
  constructor
  · rintro ⟨r, hr, h⟩
    cases r <;> simp at h
    exact h ▸ hr
  · exact fun h => ⟨_, h, rfl⟩

theorem noFailure_false_iff (rs : List AppResult) : noFailure rs = false ↔ ∃ m, AppResult.failed m ∈ rs := by
  rw [← failedMessages_isEmpty, List.isEmpty_eq_false_iff_exists_mem]
  exact exists_congr (failedMessages_spec rs)

/-- InstallationError iff plan creation failed or some app's install failed. -/
theorem installationError_iff (p : Path) :
    Mark.state .installationError ∈ pathMarks p ↔
      (∃ r, p = .planFailed r) ∨ (∃ r n rs, p = .installed r n rs ∧ ∃ m, AppResult.failed m ∈ rs) := by
  cases p <;> simp [pathMarks, ← noFailure_false_iff, and_assoc]

/-- One installer-error announcement per failed app, in order, all before InstallationError. -/
theorem insterr_per_failed (r : Resp.Response) (n : Nat) (rs : List AppResult) :
    pathMarks (.installed r n rs) =
      [.response, .state .installing] ++ (failedMessages rs).map .insterr ++
        (if noFailure rs then [] else [.state .installationError]) := rfl

/-- The server response is announced iff a body was obtained (authenticated, see
`handleOutcome_ok_iff`) and parsed. -/
theorem response_iff (p : Path) : Mark.response ∈ pathMarks p ↔ p.usable.isSome := by
  cases p <;> simp [pathMarks, Path.usable]

/-- A body reaches the parser only from an exchange that returned a 2xx response which, when CUP is
configured, passed verification. -/
theorem handleOutcome_ok_iff (o : HttpOutcome) (w : World) (body : Bytes) :
    (handleOutcome o w).1 = .ok body ↔
      ∃ status ra auth dt, o = .response status ra body auth dt ∧ (w.cup.isSome → auth = true) ∧
        200 ≤ status ∧ status < 300 := by
  rw [outcome_classification]
  cases o with
  | fail k dt => simp
  | response status ra b auth dt =>
    simp only
    constructor
    · intro h
      split at h
      · cases h
      · split at h <;> cases h
        exact ⟨status, ra, auth, dt, rfl, fun hi => by cases auth <;> simp_all, ‹_›⟩
    · rintro ⟨_, _, _, _, ho, ha, hs⟩
      cases ho
      rw [if_neg (fun hc => by simp [ha hc.1] at hc), if_pos hs]

theorem πEv_none_storage (a : Action) (h : tStorage a.tag = true) : πEv a = none := by
  cases a with
  | event e => cases e <;> cases h
  | _ => rfl

def midEvent : Event → Prop
  | .result _ => False
  | .schedule _ => False
  | .state s => s ≠ .idle ∧ s ≠ .waitingForReboot
  | _ => True

theorem midEvent_of_tCheckBody (a : Action) (h : tCheckBody a.tag = true) : ∀ e, πEv a = some e → midEvent e := by
  intro e he
  unfold πEv at he
  split at he
  · cases he
    cases e with
    | result r => cases h
    | schedule s => cases h
    | state s => simpa [Action.tag, tCheckBody, midEvent] using h
    | _ => trivial
  · cases he

theorem closeCheck_evs {w0 w1 : World} (h : AddsT tCheckBody w0 w1) (r : Except CheckErr (List AppResp)) :
    ∃ mid, evs (closeCheck r w1) =
        [.result r, .protocol (closeCheck r w1).ctx.st, .schedule (closeCheck r w1).ctx.sched] ++ mid ++ evs w0 ∧
      ∀ e ∈ mid, midEvent e := by
  obtain ⟨d, e, p⟩ := h
  refine ⟨d.filterMap πEv, ?_, fun ev hev => ?_⟩
  · unfold evs closeCheck
    simp only
    rw [← (inv_persistData _).ctx,
      proj_of_addsT πEv (steps_persistData (S := { tag := tStorage }) rfl (.refl _)).adds πEv_none_storage]
    simp only [yieldEv, proj_emit]
    unfold proj
    rw [e, List.filterMap_append]
    rfl
  · obtain ⟨a, ha, hae⟩ := List.mem_filterMap.1 hev
    exact midEvent_of_tCheckBody a (p a ha) ev hae

/-- **flow_shape (first and last).** Every update check that the model describes announces
CheckingForUpdates first; everything in between is neither a result nor a schedule change nor
Idle / WaitingForReboot; and its last three events are the schedule, the protocol state — both as
the context holds them when the check is over — and exactly one result. -/
theorem startUpdateCheck_evs (params : RequestParams) (w : World) (h : (startUpdateCheck params w).1 ≠ none) :
    ∃ r mid, evs (startUpdateCheck params w).2 =
        [.result r, .protocol (startUpdateCheck params w).2.ctx.st, .schedule (startUpdateCheck params w).2.ctx.sched] ++
          mid ++ .state (.checking params.source) :: evs w ∧
      ∀ e ∈ mid, midEvent e := by
  unfold startUpdateCheck at h ⊢
  have hs : Steps ⟨tCheckBody, fun _ => True, true⟩ (yieldEv (.state (.checking params.source)) w)
      (performUpdateCheck params w.apps w).2 :=
    steps_checkRest (fun _ h => h) (fun _ _ => trivial) (steps_nextGuid (steps_reportCheckInterval rfl (.refl _)))
  generalize performUpdateCheck params w.apps w = pr at h hs
  obtain ⟨res, w1⟩ := pr
  cases res with
  | none => exact absurd rfl h
  | some cr =>
    cases cr with
    | ok ok =>
      simp only
      exact ⟨_, closeCheck_evs (steps_prepareOk rfl rfl rfl hs).adds _⟩
    | error e =>
      simp only
      exact ⟨_, closeCheck_evs (steps_prepareErr rfl rfl hs).adds _⟩

def actionOf : AppResult → AppAction
  | .installed => .updated
  | .deferred => .deferredByPolicy
  | .failed _ => .installError

theorem alignResults_length (apps : List Resp.App) (rs : List AppResult) :
    (alignResults apps rs).length = apps.length := by
  fun_induction alignResults apps rs <;> simp_all

theorem alignResults_offered (apps : List Resp.App) (rs : List AppResult)
    (h : (apps.filter isOffered).length ≤ rs.length) :
    ((apps.zip (alignResults apps rs)).filter (fun p => isOffered p.1)) = (apps.filter isOffered).zip (rs.map actionOf) := by
  fun_induction alignResults apps rs with
  | case1 => rfl
  | case2 a rest ho r rs' ih =>
    rw [List.filter_cons, if_pos ho] at h ⊢
    rw [List.zip_cons_cons, List.filter_cons, if_pos ho, ih (Nat.le_of_succ_le_succ h)]
    cases r <;> rfl
  | case3 a rest ho ih =>
    -- an offered app and no result left: excluded by `h`
    rw [List.filter_cons, if_pos ho] at h
    cases h
  | case4 rs a rest ho ih =>
    rw [List.filter_cons, if_neg ho] at h ⊢
    rw [List.zip_cons_cons, List.filter_cons, if_neg ho, ih h]

theorem alignResults_others (apps : List Resp.App) (rs : List AppResult) :
    ∀ p ∈ apps.zip (alignResults apps rs), isOffered p.1 = false → p.2 = .noUpdate := by
  fun_induction alignResults apps rs with
  | case1 => exact fun _ h => nomatch h
  | case2 a rest ho r rs' ih => exact List.forall_mem_cons.2 ⟨fun hn => absurd (ho.symm.trans hn) (by decide), ih⟩
  | case3 a rest ho ih => exact List.forall_mem_cons.2 ⟨fun _ => rfl, ih⟩
  | case4 rs a rest ho ih => exact List.forall_mem_cons.2 ⟨fun _ => rfl, ih⟩

/-- **result_alignment.** With one installer result per offered app (the installer's contract), the
apps offered an update receive the installer's results in response order — whatever else the
response lists in between — and every other app is reported NoUpdate. -/
theorem alignResults_spec (apps : List Resp.App) (rs : List AppResult)
    (h : rs.length = (apps.filter isOffered).length) :
    ((apps.zip (alignResults apps rs)).filter (fun p => isOffered p.1)) = (apps.filter isOffered).zip (rs.map actionOf) ∧
    ∀ p ∈ apps.zip (alignResults apps rs), isOffered p.1 = false → p.2 = .noUpdate :=
  ⟨alignResults_offered apps rs (Nat.le_of_eq h.symm), alignResults_others apps rs⟩

theorem installResponses_ids (r : Resp.Response) (rs : List AppResult) :
    (installResponses r rs).map (·.id) = r.apps.map (·.id) := by
  unfold installResponses
  rw [List.map_map]
  exact (List.map_map (f := Prod.fst) (g := (·.id))).symm.trans
    (congrArg _ (List.map_fst_zip (Nat.le_of_eq (alignResults_length r.apps rs).symm)))

theorem installResponses_actions (r : Resp.Response) (rs : List AppResult) :
    (installResponses r rs).map (·.result) = alignResults r.apps rs := by
  unfold installResponses
  rw [List.map_map]
  exact List.map_snd_zip (Nat.le_of_eq (alignResults_length r.apps rs))

theorem makeAppResponses_ids (r : Resp.Response) (a : AppAction) :
    (makeAppResponses r a).map (·.id) = r.apps.map (·.id) ∧ ∀ x ∈ makeAppResponses r a, x.result = a := by
  unfold makeAppResponses
  constructor
  · rw [List.map_map]; rfl
  · intro x hx
    obtain ⟨y, _, rfl⟩ := List.mem_map.1 hx
    rfl

def pathResult : Path → Option (Except CheckErr (List AppResp))
  | .noResponse e => some (.error (.omahaRequest e))
  | .unparseable => some (.error .responseParser)
  | .noUpdate r => some (.ok (makeAppResponses r .noUpdate))
  | .planFailed _ => some (.error .installPlan)
  | .deferred r => some (.ok (makeAppResponses r .deferredByPolicy))
  | .denied r => some (.ok (makeAppResponses r .deniedByPolicy))
  | .installed r _ rs => some (.ok (installResponses r rs))
  | .outside => none

def resOf (c : CheckResult) : Option (Except CheckErr (List AppResp)) :=
  c.map fun x => match x with
    | .ok ok => .ok ok.responses
    | .error e => .error e

def rebootOf (c : CheckResult) : Bool :=
  match c with
  | some (.ok ok) => ok.reboot
  | _ => false

/-- A reboot is pending exactly after an install in which no app failed and for which the policy
says a reboot is needed. -/
def pathReboot (p : Path) (env : Env) : Bool :=
  match p with
  | .installed _ _ rs => noFailure rs && env.rebootNeeded
  | _ => false

theorem recordFinish_fst (planId : Nat) (firstSeen finish : Int) (nv : List (Bytes × Option Bytes)) (w : World) :
    (recordFinish planId firstSeen finish nv w).1 = (recordFinish planId firstSeen finish nv w).2.env.rebootNeeded := rfl

theorem installPhase_result (params : RequestParams) (apps : List App) (session : Nat)
    (nv : List (Bytes × Option Bytes)) (response : Resp.Response) (planId : Nat) (w : World) :
    (installPhase params apps session nv response planId w).1 =
      some (.ok ⟨installResponses response w.env.results, noFailure w.env.results && w.env.rebootNeeded⟩) := by
  obtain ⟨firstSeen, ns, w2, w4, h2, h4, e⟩ := installPhase_parts params apps session nv response planId w
  -- the answer to the reboot question is the script's, which the whole phase leaves alone
  have f := (installPhase_frame params apps session nv response planId w).rebootNeeded
  rw [e] at f ⊢
  cases hn : noFailure w.env.results
  · rw [finishInstall_failed hn]; rfl
  · rw [finishInstall_ok hn] at f ⊢
    rw [recordFinish_fst, f]
    rfl

section
variable {params : RequestParams} {apps : List App} {session : Nat} {r : Resp.Response} {w : World}
  {p : Path} {res : CheckResult × World}

theorem UpdateRun.result_eq (h : UpdateRun params apps session r w p res) :
    resOf res.1 = pathResult p ∧ rebootOf res.1 = pathReboot p w.env := by
  cases h with
  | planFailed => exact ⟨rfl, rfl⟩
  | deferred => exact ⟨rfl, rfl⟩
  | denied => exact ⟨rfl, rfl⟩
  | installed => rw [installPhase_result]; exact ⟨rfl, rfl⟩

theorem ResponseRun.result_eq (h : ResponseRun params apps session w p res) :
    resOf res.1 = pathResult p ∧ rebootOf res.1 = pathReboot p w.env := by
  cases h with
  | outside => exact ⟨rfl, rfl⟩
  | unparseable => exact ⟨rfl, rfl⟩
  | noUpdate => exact ⟨rfl, rfl⟩
  | update r hu => exact hu.result_eq

end

/-- **result_alignment (whole check).** The result of the check and whether a reboot is pending are
functions of the path. -/
theorem performUpdateCheck_result (params : RequestParams) (apps : List App) (w : World) :
    resOf (performUpdateCheck params apps w).1 = pathResult (pathOf (requestPhase params apps w).1 w.env) ∧
    rebootOf (performUpdateCheck params apps w).1 = pathReboot (pathOf (requestPhase params apps w).1 w.env) w.env := by
  cases h : (requestPhase params apps w).1 with
  | error f => rw [performUpdateCheck_eq, h]; exact ⟨rfl, rfl⟩
  | ok body =>
    obtain ⟨hf, hr⟩ := performUpdateCheck_run params apps w h
    have hr := hr.result_eq
    unfold pathReboot at hr ⊢
    rw [hf.rebootNeeded] at hr
    exact hr

theorem marks_waitForReboot (opts : InstallSource) (u : UnitEnv) (w : World) : marks (waitForReboot opts u w).2 = marks w :=
  marks_of_addsT noMarks_tReboot (steps_waitForReboot (S := ⟨tReboot, fun _ => True, true⟩) (fun _ h => h) rfl
    (fun _ => trivial) (.refl w)).adds

theorem afterCheck_reboot_marks (u : UnitEnv) (opts : InstallSource) (w : World) :
    marks (afterCheck u opts (some true) w).2 =
      (match (afterCheck u opts (some true) w).1 with
        | .completed => [.state .idle]
        | _ => []) ++ .state .waitingForReboot :: marks w := by
  have hm := (marks_waitForReboot opts u (yieldEv (.state .waitingForReboot) w)).trans (marks_yield _ w)
  unfold afterCheck
  simp only
  generalize waitForReboot opts u (yieldEv (.state .waitingForReboot) w) = p at hm
  obtain ⟨_ | _ | _, w1⟩ := p
  · exact hm
  · exact hm
  · exact (marks_yield _ w1).trans (congrArg _ hm)

/-- **idle_follows.** After a check, `run` announces Idle — directly when no reboot is pending, and
after WaitingForReboot and the reboot wait (during which nothing else is announced) when one is. -/
theorem afterCheck_marks (u : UnitEnv) (opts : InstallSource) (reboot : Bool) (w : World)
    (hc : (afterCheck u opts (some reboot) w).1 = .completed) :
    marks (afterCheck u opts (some reboot) w).2 =
      .state .idle :: ((if reboot then [.state .waitingForReboot] else []) ++ marks w) := by
  cases reboot with
  | false => exact marks_yield _ _
  | true => rw [afterCheck_reboot_marks, hc]; rfl

/-- While the unit is still waiting to reboot, WaitingForReboot is the last announcement. -/
theorem afterCheck_waiting (u : UnitEnv) (opts : InstallSource) (w : World)
    (hc : (afterCheck u opts (some true) w).1 = .stalled) :
    marks (afterCheck u opts (some true) w).2 = .state .waitingForReboot :: marks w := by
  rw [afterCheck_reboot_marks, hc]; rfl

/-! ### Non-vacuity -/

def exResp : Resp.Response := { protocol := [], server := none, daystart := none, apps := [] }

def exApp (id : Bytes) (uc : Option Resp.Status) : Resp.App :=
  { id := id, status := .ok, cohort := {}, ping := none,
    updateCheck := uc.map fun s => { status := s, info := none, urls := none, manifest := none, extras := [] },
    events := none, extras := [] }

example : pathMarks (.installed exResp 1 [.installed, .failed 7, .deferred, .failed 2]) =
    [.response, .state .installing, .insterr 7, .insterr 2, .state .installationError] := by decide

example : alignResults [exApp [1] (some .ok), exApp [2] (some .noUpdate), exApp [3] none, exApp [4] (some .ok)]
    [.failed 0, .installed] = [.installError, .noUpdate, .noUpdate, .updated] := by decide

example : pathMarks (.denied exResp) = [.response] := by decide

end Omaha.SM
