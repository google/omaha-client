/-
C16 — Response parser is total and faithful.

`decode_encode` is stated at the level of the parsed JSON value: every protocol `Response` value
(extension attributes in canonical form) has a document value that decodes to exactly it.
The text layer (`JsonP.parse`) and the serde typing rules are tied to serde_json / the derive
macros by the correspondence stream `resp`.

A struct decoder sees the member list of an object only through `lookupAll` at its declared names
and through `extrasOf`; `asStruct_enc` / `asMapStruct_enc` say what both give on an encoder's object,
so that each `decode…_enc` below works on an opaque member list with one equation per member.
-/
import Omaha.Response
import Omaha.Lemmas.Dec

namespace Omaha.Resp

open Omaha Omaha.JsonP

theorem lookupAll_append (a b : List (Bytes × Val)) (k : Bytes) :
    lookupAll (a ++ b) k = lookupAll a k ++ lookupAll b k := by
  simp [lookupAll, List.filter_append]

theorem lookupAll_cons (k' : Bytes) (v : Val) (rest : List (Bytes × Val)) (k : Bytes) :
    lookupAll ((k', v) :: rest) k = if k' = k then v :: lookupAll rest k else lookupAll rest k := by
  by_cases h : k' = k <;> simp [lookupAll, h]

theorem lookupAll_nil (k : Bytes) : lookupAll [] k = [] := rfl

theorem lookupAll_singleton (k : Bytes) (v : Val) : lookupAll [(k, v)] k = [v] := by
  rw [lookupAll_cons, if_pos rfl, lookupAll_nil]

theorem lookupAll_of_not_mem (x : List (Bytes × Val)) (k : Bytes) (h : ∀ kv ∈ x, kv.1 ≠ k) :
    lookupAll x k = [] := by
  induction x with
  | nil => rfl
  | cons kv rest ih =>
    obtain ⟨k', v⟩ := kv
    rw [lookupAll_cons, if_neg (h (k', v) (by simp))]
    exact ih (fun kv hkv => h kv (by simp [hkv]))

theorem lookupAll_of_mem {kvs : List (Bytes × Val)} (hnd : (kvs.map (·.1)).Nodup) {kv : Bytes × Val}
    (h : kv ∈ kvs) : lookupAll kvs kv.1 = [kv.2] := by
  induction kvs with
  | nil => cases h
  | cons a rest ih =>
    obtain ⟨k, v⟩ := a
    rw [List.map_cons, List.nodup_cons] at hnd
    rw [lookupAll_cons]
    rcases List.mem_cons.1 h with rfl | h
    · rw [if_pos rfl, lookupAll_of_not_mem rest k fun kv' hkv e => hnd.1 (e ▸ List.mem_map_of_mem (f := (·.1)) hkv)]
    · rw [if_neg fun e : k = kv.1 => hnd.1 (e ▸ List.mem_map_of_mem (f := (·.1)) h), ih hnd.2 h]

theorem bind_ok {α β} (a : α) (f : α → R β) : (R.ok a).bind f = f a := rfl

theorem bind_eq_ok {α β} {x : R α} {f : α → R β} {b : β} (h : x.bind f = .ok b) : ∃ a, x = .ok a ∧ f a = .ok b := by
  cases x with
  | ok a => exact ⟨a, rfl, h⟩
  | _ => cases h

theorem req_eq {α} (kvs : List (Bytes × Val)) (k : String) (f : Val → R α) :
    req kvs k f = match lookupAll kvs (s k) with | [v] => f v | _ => .err := by
  unfold req field
  rcases lookupAll kvs (s k) with _ | ⟨v, _ | ⟨w, l⟩⟩ <;> rfl

def optVal {α} (f : Val → R α) : Val → R (Option α)
  | .null => .ok none
  | v => (f v).bind fun a => .ok (some a)

theorem opt_eq {α} (kvs : List (Bytes × Val)) (k : String) (f : Val → R α) :
    opt kvs k f = match lookupAll kvs (s k) with | [] => .ok none | [v] => optVal f v | _ => .err := by
  unfold opt field
  rcases lookupAll kvs (s k) with _ | ⟨v, _ | ⟨w, l⟩⟩
  · rfl
  · cases v <;> rfl
  · rfl

/-- Not by `rfl`: `simp` would use it as a definitional step and leave no trace of it in the proof, and the
kernel, left to find out why the two sides agree, unfolds `f kvs` first and runs its lookups on the literals. -/
theorem asStruct_obj {α} (n : Nat) (f : List (Bytes × Val) → R α) (kvs : List (Bytes × Val)) :
    asStruct n f (.obj kvs) = f kvs := by
  rw [asStruct]

theorem req_eq_ok {α} {kvs : List (Bytes × Val)} {k : String} {f : Val → R α} {a : α} (h : req kvs k f = .ok a) :
    ∃ v, lookupAll kvs (s k) = [v] ∧ f v = .ok a := by
  rw [req_eq] at h
  split at h
  · exact ⟨_, ‹_›, h⟩
  · cases h

/-- Extension attributes in the form the decoder produces them (sorted by key, one entry per
key) and not using any declared member name. -/
def ExtrasOK (declared : List String) (x : Extras) : Prop :=
  (∀ kv ∈ x, (declared.map s).contains kv.1 = false) ∧
  x.foldl (fun acc kv => insertSorted kv.1 kv.2 acc) [] = x

theorem extrasOf_append_declared (declared : List String) (decl x : List (Bytes × Val))
    (hd : ∀ kv ∈ decl, (declared.map s).contains kv.1 = true) (hx : ExtrasOK declared x) :
    extrasOf declared (decl ++ x) = x := by
  unfold extrasOf
  rw [List.filter_append]
  have h1 : decl.filter (fun kv => !(declared.map s).contains kv.1) = [] := by
    rw [List.filter_eq_nil_iff]
    intro kv hkv
    rw [hd kv hkv]; simp
  have h2 : x.filter (fun kv => !(declared.map s).contains kv.1) = x := by
    rw [List.filter_eq_self]
    intro kv hkv
    rw [hx.1 kv hkv]; simp
  rw [h1, h2, List.nil_append]
  exact hx.2

/-! ### Encoding (a right inverse of decoding) -/

def encOpt {α} (f : α → Val) : Option α → Val
  | none => .null
  | some a => f a

def encStatus : Status → Val
  | .ok => .str (s "ok")
  | .restricted => .str (s "restricted")
  | .noUpdate => .str (s "noupdate")
  | .error b => .str b

/-- An `Error(text)` status is only representable when the text is not one of the known names. -/
def Status.WF : Status → Prop
  | .error b => b ≠ s "ok" ∧ b ≠ s "restricted" ∧ b ≠ s "noupdate"
  | _ => True

def encNat (n : Nat) : Val := .num (.uint n)

def encPackage (p : Package) : Val :=
  .obj ([(s "name", .str p.name), (s "required", .bool p.required), (s "size", encOpt encNat p.size),
         (s "hash", encOpt .str p.hash), (s "hash_sha256", encOpt .str p.hashSha256), (s "fp", .str p.fp)] ++ p.extras)

def Package.WF (p : Package) : Prop :=
  (∀ n, p.size = some n → n ≤ Dec.u64Max) ∧
  ExtrasOK ["name", "required", "size", "hash", "hash_sha256", "fp"] p.extras

def encAction (a : Action) : Val :=
  .obj ([(s "event", encOpt .str a.event), (s "run", encOpt .str a.run)] ++ a.extras)

def Action.WF (a : Action) : Prop := ExtrasOK ["event", "run"] a.extras

def encManifest (m : Manifest) : Val :=
  .obj [(s "version", .str m.version),
        (s "actions", .obj [(s "action", .arr (m.actions.map encAction))]),
        (s "packages", .obj [(s "package", .arr (m.packages.map encPackage))])]

def Manifest.WF (m : Manifest) : Prop := (∀ a ∈ m.actions, a.WF) ∧ (∀ p ∈ m.packages, p.WF)

def encUrls (us : List Bytes) : Val :=
  .obj [(s "url", .arr (us.map fun c => .obj [(s "codebase", .str c)]))]

def encUpdateCheck (u : UpdateCheck) : Val :=
  .obj ([(s "status", encStatus u.status), (s "info", encOpt .str u.info), (s "urls", encOpt encUrls u.urls),
         (s "manifest", encOpt encManifest u.manifest)] ++ u.extras)

def UpdateCheck.WF (u : UpdateCheck) : Prop :=
  u.status.WF ∧ (∀ m, u.manifest = some m → m.WF) ∧ ExtrasOK ["status", "info", "urls", "manifest"] u.extras

def encStatusStruct (st : Status) : Val := .obj [(s "status", encStatus st)]

def encApp (a : App) : Val :=
  .obj ([(s "appid", .str a.id), (s "status", encStatus a.status),
         (s "cohort", encOpt .str a.cohort.id), (s "cohorthint", encOpt .str a.cohort.hint),
         (s "cohortname", encOpt .str a.cohort.name),
         (s "ping", encOpt encStatusStruct a.ping), (s "updatecheck", encOpt encUpdateCheck a.updateCheck),
         (s "event", encOpt (fun es => .arr (es.map encStatusStruct)) a.events)] ++ a.extras)

def App.WF (a : App) : Prop :=
  a.status.WF ∧ (∀ st, a.ping = some st → st.WF) ∧ (∀ u, a.updateCheck = some u → u.WF) ∧
  (∀ es, a.events = some es → ∀ e ∈ es, e.WF) ∧
  ExtrasOK ["appid", "status", "cohort", "cohorthint", "cohortname", "ping", "updatecheck", "event"] a.extras

def encDayStart (d : DayStart) : Val :=
  .obj [(s "elapsed_days", encOpt encNat d.elapsedDays), (s "elapsed_seconds", encOpt encNat d.elapsedSeconds)]

def DayStart.WF (d : DayStart) : Prop :=
  (∀ n, d.elapsedDays = some n → n ≤ Dec.u32Max) ∧ (∀ n, d.elapsedSeconds = some n → n ≤ Dec.u32Max)

def encResponse (r : Response) : Val :=
  .obj [(s "protocol", .str r.protocol), (s "server", encOpt .str r.server),
        (s "daystart", encOpt encDayStart r.daystart), (s "app", .arr (r.apps.map encApp))]

def Response.WF (r : Response) : Prop :=
  (∀ d, r.daystart = some d → d.WF) ∧ (∀ a ∈ r.apps, a.WF)

def encWrapper (r : Response) : Val := .obj [(s "response", encResponse r)]

/-- A literal at the head of a list of names unifies with `String.ofList l`. -/
theorem map_s_cons (l : List Char) (ks : List String) :
    (String.ofList l :: ks).map s = (l.map fun c => UInt8.ofNat c.toNat) :: ks.map s := by
  rw [List.map_cons, s, Bytes.ofString_ofList]

/-- The member names of each struct are pairwise different as bytes.  Tables of literals, decided by the
kernel; each literal is first spelt out as its characters (`map_s_cons`), so that `String.toList` is not
run on it. -/
structure Keys : Prop where
  package : (["name", "required", "size", "hash", "hash_sha256", "fp"].map s).Nodup
  action : (["event", "run"].map s).Nodup
  manifest : (["version", "actions", "packages"].map s).Nodup
  updateCheck : (["status", "info", "urls", "manifest"].map s).Nodup
  app : (["appid", "status", "cohort", "cohorthint", "cohortname", "ping", "updatecheck", "event"].map s).Nodup
  dayStart : (["elapsed_days", "elapsed_seconds"].map s).Nodup
  response : (["protocol", "server", "daystart", "app"].map s).Nodup

theorem keys : Keys := by
  constructor
  all_goals
    repeat rewrite [map_s_cons]
    decide +kernel

/-- The names are taken off by a pattern, not by `·.1`: then `rfl` proves `hk` without evaluating
`s` on the literals. -/
theorem asStruct_enc {α} {n : Nat} {ks : List String} {decl : List (Bytes × Val)} {g : List (Bytes × Val) → R α} {a : α}
    (hk : (decl.map fun (k, _) => k) = ks.map s) (hks : (ks.map s).Nodup)
    (h : ∀ kvs, (∀ kv ∈ decl, lookupAll kvs kv.1 = [kv.2]) → g kvs = .ok a) :
    asStruct n g (.obj decl) = .ok a :=
  h decl fun _ => lookupAll_of_mem (show (decl.map (·.1)).Nodup from hk ▸ hks)

theorem asMapStruct_enc {α} {ks : List String} {decl x : List (Bytes × Val)} {g : List (Bytes × Val) → R α} {a : α}
    (hk : (decl.map fun (k, _) => k) = ks.map s) (hks : (ks.map s).Nodup) (hx : ExtrasOK ks x)
    (h : ∀ kvs, (∀ kv ∈ decl, lookupAll kvs kv.1 = [kv.2]) → extrasOf ks kvs = x → g kvs = .ok a) :
    asMapStruct g (.obj (decl ++ x)) = .ok a := by
  replace hk : decl.map (·.1) = ks.map s := hk
  have hdecl : ∀ kv ∈ decl, (ks.map s).contains kv.1 = true := fun kv hkv =>
    List.contains_iff_mem.2 (hk ▸ List.mem_map_of_mem hkv)
  refine h (decl ++ x) (fun kv hkv => ?_) (extrasOf_append_declared ks decl x hdecl hx)
  rw [lookupAll_append, lookupAll_of_mem (hk ▸ hks) hkv, lookupAll_of_not_mem x, List.append_nil]
  intro kv' hkv' e
  have := hx.1 kv' hkv'
  rw [e, hdecl kv hkv] at this
  cases this

theorem field_decl (decl x : List (Bytes × Val)) (k : String) (hx : ∀ kv ∈ x, kv.1 ≠ s k) :
    field (decl ++ x) k = field decl k := by
  unfold field
  rw [lookupAll_append, lookupAll_of_not_mem x (s k) hx, List.append_nil]

/-- `field (decl ++ extras) k = one v` for a literal member list `decl` and extras avoiding `k`. -/
macro "solve_field " nd:term ", " k:str : tactic =>
  `(tactic| (rw [field_decl _ _ _ ($nd $k (by simp))];
             simp (config := { decide := true }) [field, lookupAll_cons, lookupAll_nil]))

theorem statusNames_distinct : s "restricted" ≠ s "ok" ∧ s "noupdate" ≠ s "ok" ∧ s "noupdate" ≠ s "restricted" := by
  unfold s
  rw [Bytes.ofString_ofList, Bytes.ofString_ofList, Bytes.ofString_ofList]
  decide

theorem asStatus_enc (st : Status) (h : st.WF) : asStatus (encStatus st) = .ok st := by
  obtain ⟨n1, n2, n3⟩ := statusNames_distinct
  cases st with
  | ok => simp [encStatus, asStatus]
  | restricted => simp [encStatus, asStatus, n1]
  | noUpdate => simp [encStatus, asStatus, n2, n3]
  | error b =>
    obtain ⟨h1, h2, h3⟩ := h
    simp [encStatus, asStatus, h1, h2, h3]

theorem asUint_enc (max n : Nat) (h : n ≤ max) : asUint max (encNat n) = .ok n := if_pos h

theorem asList_map {α} {f : Val → R α} {enc : α → Val} {xs : List α} (h : ∀ x ∈ xs, f (enc x) = .ok x) :
    asList f (.arr (xs.map enc)) = .ok xs := by
  show mapR f (xs.map enc) = .ok xs
  induction xs with
  | nil => rfl
  | cons x xs ih =>
    rw [List.map_cons, mapR, h x (by simp), ih fun y hy => h y (by simp [hy])]
    rfl

/-- An optional member written by `encOpt`; every decoder of the protocol rejects `null`. -/
theorem optVal_enc {α} {f : Val → R α} {enc : α → Val} {o : Option α}
    (hdec : ∀ a, o = some a → f (enc a) = .ok a) (hnull : f .null = .err) :
    optVal f (encOpt enc o) = .ok o := by
  cases o with
  | none => rfl
  | some a =>
    have h := hdec a rfl
    have hne : enc a ≠ .null := fun e => by rw [e, hnull] at h; cases h
    rw [encOpt, optVal, h]
    · rfl
    · exact hne

theorem optVal_str (o : Option Bytes) : optVal asStr (encOpt .str o) = .ok o :=
  optVal_enc (fun _ _ => rfl) rfl

theorem decodePackage_enc (p : Package) (h : p.WF) : decodePackage (encPackage p) = .ok p := by
  refine asMapStruct_enc rfl keys.package h.2 fun kvs fld hext => ?_
  simp only [List.forall_mem_cons] at fld
  simp only [req_eq, opt_eq, fld, asStr, asBool, optVal_str, optVal_enc (fun n hn => asUint_enc _ n (h.1 n hn)) rfl,
    bind_ok, hext]

theorem decodeAction_enc (a : Action) (h : a.WF) : decodeAction (encAction a) = .ok a := by
  refine asMapStruct_enc rfl keys.action h fun kvs fld hext => ?_
  simp only [List.forall_mem_cons] at fld
  simp only [opt_eq, fld, optVal_str, bind_ok, hext]

theorem decodeManifest_enc (m : Manifest) (h : m.WF) : decodeManifest (encManifest m) = .ok m := by
  refine asStruct_enc rfl keys.manifest fun kvs fld => ?_
  simp only [List.forall_mem_cons] at fld
  simp only [req_eq, fld, asStr, asStruct_obj, lookupAll_singleton, asList_map fun a ha => decodeAction_enc a (h.1 a ha),
    asList_map fun p hp => decodePackage_enc p (h.2 p hp), bind_ok]

theorem decodeUrls_enc (us : List Bytes) : decodeUrls (encUrls us) = .ok us := by
  rw [decodeUrls, encUrls, asStruct_obj, req_eq, lookupAll_singleton]
  exact asList_map fun c _ => by rw [asStruct_obj, req_eq, lookupAll_singleton]; rfl

theorem decodeUpdateCheck_enc (u : UpdateCheck) (h : u.WF) :
    decodeUpdateCheck (encUpdateCheck u) = .ok u := by
  refine asMapStruct_enc rfl keys.updateCheck h.2.2 fun kvs fld hext => ?_
  simp only [List.forall_mem_cons] at fld
  simp only [req_eq, opt_eq, fld, asStatus_enc _ h.1, optVal_str, optVal_enc (fun us _ => decodeUrls_enc us) rfl,
    optVal_enc (fun m hm => decodeManifest_enc m (h.2.1 m hm)) rfl, bind_ok, hext]

theorem decodeStatusStruct_enc (st : Status) (h : st.WF) :
    decodeStatusStruct (encStatusStruct st) = .ok st := by
  simp only [decodeStatusStruct, encStatusStruct, asStruct_obj, req_eq, lookupAll_singleton, asStatus_enc st h]

theorem decodeApp_enc (a : App) (h : a.WF) : decodeApp (encApp a) = .ok a := by
  obtain ⟨hst, hpg, huc, hev, hx⟩ := h
  refine asMapStruct_enc rfl keys.app hx fun kvs fld hext => ?_
  simp only [List.forall_mem_cons] at fld
  simp only [req_eq, opt_eq, fld, asStr, asStatus_enc _ hst, optVal_str,
    optVal_enc (fun st hs => decodeStatusStruct_enc st (hpg st hs)) rfl,
    optVal_enc (fun u hu => decodeUpdateCheck_enc u (huc u hu)) rfl,
    optVal_enc (fun es hes => asList_map fun e he => decodeStatusStruct_enc e (hev es hes e he)) rfl, bind_ok, hext]

theorem decodeDayStart_enc (d : DayStart) (h : d.WF) : decodeDayStart (encDayStart d) = .ok d := by
  refine asStruct_enc rfl keys.dayStart fun kvs fld => ?_
  simp only [List.forall_mem_cons] at fld
  simp only [opt_eq, fld, optVal_enc (fun n hn => asUint_enc _ n (h.1 n hn)) rfl,
    optVal_enc (fun n hn => asUint_enc _ n (h.2 n hn)) rfl, bind_ok]

theorem decodeResponse_enc (r : Response) (h : r.WF) : decodeResponse (encResponse r) = .ok r := by
  refine asStruct_enc rfl keys.response fun kvs fld => ?_
  simp only [List.forall_mem_cons] at fld
  simp only [req_eq, opt_eq, fld, asStr, optVal_str, optVal_enc (fun d hd => decodeDayStart_enc d (h.1 d hd)) rfl,
    asList_map fun a ha => decodeApp_enc a (h.2 a ha), bind_ok]

/-- **decode_encode.** Every protocol response value — any number of apps in any order, statuses
with unknown strings preserved as errors, cohort fields distinguishing absent from empty,
daystart, update-check urls, manifest, actions and packages, extension attributes — is decoded
field for field from its document. -/
theorem decode_encode (r : Response) (h : r.WF) : decodeWrapper (encWrapper r) = .ok r := by
  simp only [decodeWrapper, encWrapper, asStruct_obj, req_eq, lookupAll_singleton, decodeResponse_enc r h]

/-! ### Absent and `null` are the same for optional members; empty is different -/

theorem opt_absent {α} (kvs : List (Bytes × Val)) (k : String) (f : Val → R α)
    (h : lookupAll kvs (s k) = []) : opt kvs k f = .ok none := by
  rw [opt_eq, h]

theorem opt_null {α} (kvs : List (Bytes × Val)) (k : String) (f : Val → R α)
    (h : lookupAll kvs (s k) = [.null]) : opt kvs k f = .ok none := by
  rw [opt_eq, h]; rfl

theorem opt_empty_string (kvs : List (Bytes × Val)) (k : String)
    (h : lookupAll kvs (s k) = [.str []]) : opt kvs k asStr = .ok (some []) := by
  rw [opt_eq, h]; rfl

/-! ### Missing or mistyped required members are rejected (**missing_or_mistyped_rejected**) -/

theorem req_missing {α} (kvs : List (Bytes × Val)) (k : String) (f : Val → R α)
    (h : lookupAll kvs (s k) = []) : req kvs k f = .err := by
  rw [req_eq, h]

theorem req_duplicate {α} (kvs : List (Bytes × Val)) (k : String) (f : Val → R α) (v w : Val)
    (rest : List Val) (h : lookupAll kvs (s k) = v :: w :: rest) : req kvs k f = .err := by
  rw [req_eq, h]

theorem asStr_mistyped (v : Val) (h : ∀ b, v ≠ .str b) : asStr v = .err := by
  cases v with
  | str b => exact absurd rfl (h b)
  | _ => rfl

theorem asBool_mistyped (v : Val) (h : ∀ b, v ≠ .bool b) : asBool v = .err := by
  cases v with
  | bool b => exact absurd rfl (h b)
  | _ => rfl

theorem asStatus_mistyped (v : Val) (h : ∀ b, v ≠ .str b) : asStatus v = .err := by
  cases v with
  | str b => exact absurd rfl (h b)
  | _ => rfl

theorem asUint_mistyped (max : Nat) (v : Val) (h : ∀ n, n ≤ max → v ≠ .num (.uint n)) :
    asUint max v = .err := by
  cases v with
  | num n =>
    cases n with
    | uint k =>
      by_cases hk : k ≤ max
      · exact absurd rfl (h k hk)
      · simp [asUint, hk]
    | other t => simp [asUint]
  | _ => simp [asUint]

theorem asList_mistyped {α} (f : Val → R α) (v : Val) (h : ∀ xs, v ≠ .arr xs) : asList f v = .err := by
  cases v with
  | arr xs => exact absurd rfl (h xs)
  | _ => rfl

/-- An accepted document has the wrapper, and inside it `protocol` (a string) and `app` (an
array), each exactly once. -/
theorem accepted_has_required (kvs : List (Bytes × Val)) (r : Response)
    (h : decodeWrapper (.obj kvs) = .ok r) :
    ∃ rkvs, lookupAll kvs (s "response") = [.obj rkvs] ∧
      lookupAll rkvs (s "protocol") = [.str r.protocol] ∧
      ∃ apps, lookupAll rkvs (s "app") = [.arr apps] ∧ mapR decodeApp apps = .ok r.apps := by
  obtain ⟨v, hv, h⟩ := req_eq_ok (show req kvs "response" decodeResponse = .ok r from h)
  cases v with
  | obj rkvs =>
    obtain ⟨p, hp, h⟩ := bind_eq_ok (show (req rkvs "protocol" asStr).bind _ = .ok r from h)
    obtain ⟨pv, hpl, hp⟩ := req_eq_ok hp
    obtain ⟨_, -, h⟩ := bind_eq_ok h
    obtain ⟨_, -, h⟩ := bind_eq_ok h
    obtain ⟨as, ha, h⟩ := bind_eq_ok h
    obtain ⟨av, hal, ha⟩ := req_eq_ok ha
    cases h
    cases pv <;> cases hp
    cases av <;> first | cases ha | exact ⟨rkvs, hv, hpl, _, hal, ha⟩
  | arr xs => simp only [decodeResponse, asStruct] at h; split at h <;> cases h
  | _ => cases h

/-! ### The anti-XSSI prefix (**prefix_neutral**) -/

theorem prefix_neutral (b : Bytes) :
    parseJsonResponse (xssiPrefix ++ b) = decodeParsed (JsonP.parse b) := by
  rfl

theorem no_prefix_unchanged (b : Bytes) (h : xssiPrefix.isPrefixOf b = false) :
    parseJsonResponse b = decodeParsed (JsonP.parse b) := by
  unfold parseJsonResponse stripXssi
  simp [h]

/-- Only one prefix is stripped: a doubled prefix is not a document (its first byte `)` starts no
JSON value, whatever follows). -/
theorem double_prefix_rejected (b : Bytes) : parseJsonResponse (xssiPrefix ++ (xssiPrefix ++ b)) = .err := by
  rfl

/-- Parsing any byte string returns a value, an error, or "outside the model" — the model has no
panic outcome. -/
theorem parse_total (b : Bytes) :
    (∃ r, parseJsonResponse b = .ok r) ∨ parseJsonResponse b = .err ∨ parseJsonResponse b = .outside := by
  cases h : parseJsonResponse b with
  | ok r => exact Or.inl ⟨r, rfl⟩
  | err => exact Or.inr (Or.inl rfl)
  | outside => exact Or.inr (Or.inr rfl)

/-! ### Full URLs (**full_urls_product**) -/

/-- Every codebase joined with every package name, codebase-major, in document order. -/
theorem full_urls_product (u : UpdateCheck) :
    u.fullUrls = (u.codebases.flatMap fun c => u.packages.map fun p => c ++ p.name) := rfl

theorem full_urls_length (u : UpdateCheck) :
    u.fullUrls.length = u.codebases.length * u.packages.length := by
  unfold UpdateCheck.fullUrls
  induction u.codebases with
  | nil => simp
  | cons c cs ih => simp [List.flatMap_cons, ih, Nat.succ_mul, Nat.add_comm]

theorem full_urls_mem (u : UpdateCheck) (x : Bytes) :
    x ∈ u.fullUrls ↔ ∃ c ∈ u.codebases, ∃ p ∈ u.packages, x = c ++ p.name := by
  simp only [UpdateCheck.fullUrls, List.mem_flatMap, List.mem_map, eq_comm]

/-! ### Non-vacuity -/

def pkg1 : Package := ⟨[112], true, some 5, none, some [], [102], [([122], .null)]⟩
def uc1 : UpdateCheck := ⟨.ok, none, some [[104], [105]], some ⟨[49], [⟨some [105], none, []⟩], [pkg1]⟩, []⟩
def app1 : App := ⟨[97], .error [101], ⟨some [], none, some [110]⟩, some .noUpdate, some uc1, some [.ok], [([95, 117], .bool true)]⟩
def resp1 : Response := ⟨[51], some [112], some ⟨some 4775, none⟩, [app1, app1]⟩

example : pkg1.WF := by
  refine ⟨by intro n hn; cases hn; decide, ?_, rfl⟩
  repeat rewrite [map_s_cons]
  decide +kernel
example : uc1.fullUrls = [[104, 112], [105, 112]] := by decide

end Omaha.Resp
