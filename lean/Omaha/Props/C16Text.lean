/-
C16, text level, with the hypotheses stated on the response itself: every `Response` whose strings are
UTF-8 (what Rust's `String` guarantees), whose numbers fit their Rust types and whose extension
attributes are JSON values of u64 numbers and UTF-8 strings nested at most 90 deep, written as JSON text
and read by the client's parser, comes back as itself.  (`decode_text_encode` in Props/JsonText asks for
`GoodV (encWrapper r)` and a depth bound of the encoding; here both are derived.)
-/
import Omaha.Props.JsonText

namespace Omaha.Resp

open Omaha Omaha.JsonP
open Omaha.Request (Utf8 OptUtf8)

def GoodX (x : Extras) (d : Nat) : Prop := GoodVM x ∧ depthVM x ≤ d

def Status.U : Status → Prop
  | .error b => Utf8 b
  | _ => True

def Package.U (p : Package) (d : Nat) : Prop :=
  Utf8 p.name ∧ OptUtf8 p.hash ∧ OptUtf8 p.hashSha256 ∧ Utf8 p.fp ∧ GoodX p.extras d

def Action.U (a : Action) (d : Nat) : Prop := OptUtf8 a.event ∧ OptUtf8 a.run ∧ GoodX a.extras d

def Manifest.U (m : Manifest) (d : Nat) : Prop :=
  Utf8 m.version ∧ (∀ a ∈ m.actions, a.U d) ∧ (∀ p ∈ m.packages, p.U d)

def UpdateCheck.U (u : UpdateCheck) (d : Nat) : Prop :=
  u.status.U ∧ OptUtf8 u.info ∧ (∀ us, u.urls = some us → ∀ c ∈ us, Utf8 c) ∧
  (∀ m, u.manifest = some m → m.U d) ∧ GoodX u.extras d

def App.U (a : App) (d : Nat) : Prop :=
  Utf8 a.id ∧ a.status.U ∧ OptUtf8 a.cohort.id ∧ OptUtf8 a.cohort.hint ∧ OptUtf8 a.cohort.name ∧
  (∀ st, a.ping = some st → st.U) ∧ (∀ u, a.updateCheck = some u → u.U d) ∧
  (∀ es, a.events = some es → ∀ e ∈ es, e.U) ∧ GoodX a.extras d

def Response.U (r : Response) (d : Nat) : Prop :=
  Utf8 r.protocol ∧ OptUtf8 r.server ∧ ∀ a ∈ r.apps, a.U d

theorem fitsV_encStatus (st : Status) (h : st.U) (d : Nat) : FitsV d (encStatus st) := by
  cases st with
  | error b => exact (fitsV_str ..).2 h
  | _ => exact (fitsV_str ..).2 lit!

@[simp] theorem fitsV_encOpt {α} (d : Nat) (f : α → Val) (o : Option α) : FitsV d (encOpt f o) ↔ ∀ a, o = some a → FitsV d (f a) := by
  cases o <;> simp [encOpt]

theorem fitsV_encOptStr {o : Option Bytes} (h : OptUtf8 o) (d : Nat) : FitsV d (encOpt .str o) := by
  cases o with
  | none => exact fitsV_null d
  | some b => exact (fitsV_str ..).2 h

theorem fitsV_encOptNat {o : Option Nat} (h : ∀ n, o = some n → n ≤ Dec.u64Max) (d : Nat) : FitsV d (encOpt encNat o) := by
  simpa [encNat] using h

theorem fitsV_encStatusStruct (st : Status) (h : st.U) (d : Nat) : FitsV (d + 1) (encStatusStruct st) := by
  simp (disch := lit_chars) [encStatusStruct, fitsV_encStatus st h]

theorem fitsV_encPackage (p : Package) (d : Nat) (hw : p.WF) (hu : p.U d) : FitsV (d + 1) (encPackage p) := by
  obtain ⟨h1, h2, h3, h4, hx⟩ := hu
  simp (disch := lit_chars) [encPackage, h1, h4, fitsV_encOptStr h2, fitsV_encOptStr h3, fitsV_encOptNat hw.1]
  exact hx

theorem fitsV_encAction (a : Action) (d : Nat) (hu : a.U d) : FitsV (d + 1) (encAction a) := by
  obtain ⟨h1, h2, hx⟩ := hu
  simp (disch := lit_chars) [encAction, fitsV_encOptStr h1, fitsV_encOptStr h2]
  exact hx

theorem fitsV_encManifest (m : Manifest) (d : Nat) (hw : m.WF) (hu : m.U d) : FitsV (d + 4) (encManifest m) := by
  obtain ⟨hv, ha, hp⟩ := hu
  simp (disch := lit_chars) [encManifest, hv]
  exact ⟨fun a h => fitsV_encAction a d (ha a h), fun p h => fitsV_encPackage p d (hw.2 p h) (hp p h)⟩

theorem fitsV_encUrls (us : List Bytes) (h : ∀ c ∈ us, Utf8 c) (d : Nat) : FitsV (d + 3) (encUrls us) := by
  simpa (disch := lit_chars) [encUrls] using h

theorem fitsV_encUpdateCheck (u : UpdateCheck) (d : Nat) (hw : u.WF) (hu : u.U d) : FitsV (d + 5) (encUpdateCheck u) := by
  obtain ⟨hs, hi, hurls, hm, hx⟩ := hu
  simp (disch := lit_chars) [encUpdateCheck, fitsV_encStatus _ hs, fitsV_encOptStr hi]
  exact ⟨fun us h => fitsV_encUrls us (hurls us h) (d + 1), fun m h => fitsV_encManifest m d (hw.2.1 m h) (hm m h),
    FitsVM.mono hx (Nat.le_add_right _ _)⟩

theorem fitsV_encApp (a : App) (d : Nat) (hw : a.WF) (hu : a.U d) : FitsV (d + 6) (encApp a) := by
  obtain ⟨hid, hs, hc1, hc2, hc3, hping, huc, hev, hx⟩ := hu
  simp (disch := lit_chars) [encApp, hid, fitsV_encStatus _ hs, fitsV_encOptStr hc1, fitsV_encOptStr hc2, fitsV_encOptStr hc3]
  exact ⟨fun st h => fitsV_encStatusStruct st (hping st h) _, fun u h => fitsV_encUpdateCheck u d (hw.2.2.1 u h) (huc u h),
    fun es h e he => fitsV_encStatusStruct e (hev es h e he) _, FitsVM.mono hx (Nat.le_add_right _ _)⟩

theorem fitsV_encDayStart (ds : DayStart) (hw : ds.WF) (d : Nat) : FitsV (d + 1) (encDayStart ds) := by
  have h32 : Dec.u32Max ≤ Dec.u64Max := by decide
  simp (disch := lit_chars) [encDayStart, fitsV_encOptNat fun n h => Nat.le_trans (hw.1 n h) h32,
    fitsV_encOptNat fun n h => Nat.le_trans (hw.2 n h) h32]

theorem fitsV_encWrapper (r : Response) (d : Nat) (hw : r.WF) (hu : r.U d) : FitsV (d + 9) (encWrapper r) := by
  obtain ⟨hp, hs, ha⟩ := hu
  simp (disch := lit_chars) [encWrapper, encResponse, hp, fitsV_encOptStr hs]
  exact ⟨fun x h => fitsV_encDayStart x (hw.1 x h) _, fun a h => fitsV_encApp a d (hw.2 a h) (ha a h)⟩

/-- **decode_encode (C16, text level, hypotheses on the response).** -/
theorem decode_text_encode_utf8 (r : Response) (hw : r.WF) (hu : r.U 90) :
    parseJsonResponse (Mock.render (encWrapper r)) = .ok r ∧
    parseJsonResponse (xssiPrefix ++ Mock.render (encWrapper r)) = .ok r :=
  have h := fitsV_encWrapper r 90 hw hu
  Omaha.Mock.decode_text_encode r hw h.1 (Nat.lt_of_le_of_lt h.2 (by decide))

/-! ### The hypotheses are satisfiable (an app with an update offer and an extension attribute) -/

def demoPackage : Package := { name := s "pkg", required := true, size := some 7, hash := none, hashSha256 := some (s "ab"), fp := s "fp1", extras := [] }
def demoManifest : Manifest := { version := s "1.2.3.4", actions := [{ event := some (s "install"), run := none, extras := [] }], packages := [demoPackage] }
def demoUpdateCheck : UpdateCheck := { status := .ok, info := none, urls := some [s "http://a/"], manifest := some demoManifest, extras := [(s "x", .arr [.num (.uint 1)])] }
def demoApp : App := { id := s "app", status := .ok, cohort := { id := some (s "1:1:") }, ping := some .ok, updateCheck := some demoUpdateCheck, events := none, extras := [] }
def demoResponse : Response := { protocol := s "3.0", server := some (s "prod"), daystart := some { elapsedDays := some 4775, elapsedSeconds := none }, apps := [demoApp] }

example : demoResponse.WF := by
  have hp : demoPackage.WF := ⟨fun n h => by cases h; decide, nofun, rfl⟩
  have hm : demoManifest.WF := ⟨List.forall_mem_singleton.2 ⟨nofun, rfl⟩, List.forall_mem_singleton.2 hp⟩
  have hu : demoUpdateCheck.WF := ⟨trivial, fun _ h => Option.some.inj h ▸ hm, by decide +kernel, rfl⟩
  have ha : demoApp.WF :=
    ⟨trivial, fun _ h => Option.some.inj h ▸ trivial, fun _ h => Option.some.inj h ▸ hu, nofun, nofun, rfl⟩
  exact ⟨fun _ h => Option.some.inj h ▸ ⟨fun n h => by cases h; decide, nofun⟩, List.forall_mem_singleton.2 ha⟩

example : demoResponse.U 90 := by
  have nil : GoodX [] 90 := ⟨trivial, Nat.zero_le _⟩
  have hp : demoPackage.U 90 := by
    -- unfolded first: `lit!` finds its literal by unification, and under a projection (`demoPackage.name`)
    -- the unifier reaches the literal only by evaluating it
    simp only [demoPackage, Package.U]
    exact ⟨lit!, trivial, lit!, lit!, nil⟩
  have hm : demoManifest.U 90 := by
    simp only [demoManifest, Manifest.U, Action.U, List.forall_mem_singleton]
    exact ⟨lit!, ⟨lit!, trivial, nil⟩, hp⟩
  have hu : demoUpdateCheck.U 90 := by
    simp only [demoUpdateCheck, UpdateCheck.U, Option.some.injEq, forall_eq', List.forall_mem_singleton]
    exact ⟨trivial, trivial, lit!, hm, ⟨lit!, ⟨(by decide : 1 ≤ Dec.u64Max), trivial⟩, trivial⟩, by decide⟩
  have ha : demoApp.U 90 := by
    simp only [demoApp, App.U, Option.some.injEq, forall_eq']
    exact ⟨lit!, trivial, lit!, trivial, trivial, trivial, hu, nofun, nil⟩
  simp only [demoResponse, Response.U, List.forall_mem_singleton]
  exact ⟨lit!, lit!, ha⟩

end Omaha.Resp
