/-
History-level clauses about identifiers, shared by C03, C06 and C10.

The model draws GUIDs and nonces from two counters (`nGuid`, `nNonce`): the k-th `GUID::new()` of
the real code is the draw `k`, the k-th nonce the handler generates is the draw `k`; the harness
canonicalises the real values to first-occurrence indices, so "the real code used a new GUID / a new
nonce here" is exactly "the model used the next draw here" (uniqueness of the *values* of distinct
draws is a property of the RNG and is observed by the streams, not proved).
-/
import Omaha.Lemmas.SMDraws

namespace Omaha.SM

open Omaha

/-- **every_request_decorated, no_nonce_reuse (C03, histories).** Over any number of iterations of
`run` — checks with their retries and event reports, pings while waiting to reboot, throttled or
denied iterations, from any start state — every request put on the wire carries a nonce exactly when
a CUP handler is configured, and the nonces of all requests are pairwise distinct draws. -/
theorem every_request_decorated_fresh_nonce (us : List UnitEnv) (rs : RunState) (w : World) :
    ∃ d, (runUnits us rs w).2.2.trace = d ++ w.trace ∧
      (∀ r o, Action.http r o ∈ d → r.nonceDraw.isSome = w.cup.isSome) ∧
      (d.filterMap nonceOf).Nodup := by
  obtain ⟨d, e, _, n, k⟩ := history_draws_fresh us rs w
  exact ⟨d, e, fun r o h => (k r o h).1, n⟩

/-- With CUP the number of distinct nonces is the number of requests: none is shared. -/
theorem nonce_count_eq_request_count (us : List UnitEnv) (rs : RunState) (w : World) (hc : w.cup.isSome = true) :
    ∃ d, (runUnits us rs w).2.2.trace = d ++ w.trace ∧
      (d.filterMap nonceOf).length = (d.filter fun a => match a with | .http _ _ => true | _ => false).length := by
  obtain ⟨d, e, -, -, k⟩ := history_draws_fresh us rs w
  refine ⟨d, e, ?_⟩
  rw [List.length_filterMap_eq_countP, ← List.countP_eq_length_filter]
  refine List.countP_congr fun a ha => ?_
  cases a with
  | http r o => exact iff_of_true ((k r o ha).1.trans hc) rfl
  | _ => rfl

/-- **fresh_request_id_each (histories).** Every request of every history has a request id, and no
request id draw is used twice. -/
theorem request_ids_never_reused (us : List UnitEnv) (rs : RunState) (w : World) :
    ∃ d, (runUnits us rs w).2.2.trace = d ++ w.trace ∧
      (∀ r o, Action.http r o ∈ d → r.requestDraw.isSome = true) ∧
      (d.filterMap ridOf).Nodup := by
  obtain ⟨d, e, r, _, k⟩ := history_draws_fresh us rs w
  exact ⟨d, e, fun r o h => (k r o h).2, r⟩

/-- **same_session_fresh_request_id (C06, C10).** All requests of one update check — every
update-check attempt including retries, and every event report — carry the same session id (the
draw made at the start of the check); their request ids are strictly increasing draws (newest
first in the trace), each later than the session id's draw: each request has a fresh request id,
different from every other and from the session id. -/
theorem check_same_session_fresh_request_ids (params : RequestParams) (apps : List App) (w : World) :
    ∃ d, (performUpdateCheck params apps w).2.trace = d ++ w.trace ∧
      (∀ r o, Action.http r o ∈ d → r.sessionDraw = some (sessionOf params w)) ∧
      (d.filterMap ridOf).Pairwise (· > ·) ∧
      (∀ g ∈ d.filterMap ridOf, sessionOf params w < g) := by
  -- up to the draw of the session id the check logs no request; all requests come after it
  have pre : Steps ⟨tNoHttp, fun _ => True, false⟩ w
      (nextGuid (reportCheckInterval params.source (yieldEv (.state (.checking params.source)) w))).2 :=
    steps_nextGuid (steps_reportCheckInterval rfl (steps_yield rfl (.refl w)))
  obtain ⟨d1, e1, p1⟩ := pre.adds
  have rest := steps_checkRest (S := ⟨tCheckBody, Canon params (sessionOf params w), false⟩) (apps := apps)
    (fun _ h => h) (fun _ h => h) (.refl _)
  obtain ⟨⟨d2, e2, r, -, -⟩, -, -, -⟩ := rest.draws
  have n1 : d1.filterMap ridOf = [] := List.filterMap_eq_nil_iff.2 fun a ha => by
    unfold ridOf
    split
    · cases p1 _ ha
    · rfl
  refine ⟨d2 ++ d1, by rw [e2, e1, List.append_assoc], ?_, by rw [List.filterMap_append, n1, List.append_nil]; exact r.1, ?_⟩
  · intro q o h
    rcases List.mem_append.1 h with h | h
    · obtain ⟨b, n, ⟨_, hs, _⟩, hr⟩ := rest.reqs.on e2 _ h
      rw [hr]
      simp only [mkReq, hs, Option.map_some, guidOf_guidBytes]
    · cases p1 _ h
  · intro g hg
    rw [List.filterMap_append, n1, List.append_nil] at hg
    exact (r.2 g hg).1

end Omaha.SM
