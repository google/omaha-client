/-
C20 — Versions parse, print and order numerically.

Every theorem quantifies over all byte strings / all component tuples; nothing here is bounded.
-/
import Omaha.Version
import Omaha.Lemmas.Dec

namespace Omaha.Version

open Omaha Bytes Dec

theorem parseParts_eq_some_iff (ps : List Bytes) (ns : List Nat) :
    parseParts ps = some ns ↔ ps.map parseU32 = ns.map some := by
  induction ps generalizing ns with
  | nil => cases ns <;> simp [parseParts]
  | cons p ps ih =>
    unfold parseParts
    cases ns <;> cases hp : parseU32 p <;> cases h : parseParts ps <;> simp [← ih, h, hp]

theorem parts_of_parseParts {ps : List Bytes} {ns : List Nat} (h : parseParts ps = some ns) :
    ns = ps.map fun p => (parseU32 p).getD 0 := by
  have := congrArg (List.map (·.getD 0)) ((parseParts_eq_some_iff ps ns).1 h)
  simpa [Function.comp_def] using this.symm

theorem parseParts_isSome_iff (ps : List Bytes) :
    (parseParts ps).isSome ↔ ∀ p ∈ ps, (parseU32 p).isSome := by
  induction ps with
  | nil => simp [parseParts]
  | cons p ps ih =>
    simp only [parseParts, List.mem_cons, forall_eq_or_imp, ← ih]
    cases parseU32 p <;> cases parseParts ps <;> simp

theorem ofList_isSome_iff (ns : List Nat) : (ofList ns).isSome ↔ ns.length ≤ 4 := by
  match ns with
  | [] | [_] | [_, _] | [_, _, _] | [_, _, _, _] => simp [ofList]
  | _ :: _ :: _ :: _ :: _ :: _ => simp [ofList]

theorem toList_of_ofList {ns : List Nat} {v : Version} (h : ofList ns = some v) :
    v.toList = (ns ++ List.replicate 4 0).take 4 := by
  revert h
  fun_cases ofList ns
  all_goals intro h; cases h
  all_goals rfl

/-- **parse_accepts_iff.** A string is accepted exactly when it consists of one to four
dot-separated parts, each of which is in Rust's `u32` grammar (see
`Dec.parseUnsigned_eq_some_iff`: an optional `+`, one or more ASCII digits, value ≤ 2³²−1). -/
theorem parse_accepts_iff (s : Bytes) :
    (parse s).isSome ↔
      (splitOn 46 s).length ≤ 4 ∧ ∀ p ∈ splitOn 46 s, (parseU32 p).isSome := by
  unfold parse
  simp only
  split
  · rename_i h
    exact ⟨nofun, fun h' => absurd h'.1 (Nat.not_le.2 h)⟩
  · rw [← parseParts_isSome_iff]
    split
    · rename_i ns hp
      have := congrArg List.length (parts_of_parseParts hp)
      simp only [List.length_map] at this
      rw [ofList_isSome_iff, hp, this]; simp
    · simp [*]

/-- **parse_value.** When accepted, the components are the parsed parts, in order, and missing
trailing components are zero. -/
theorem parse_value (s : Bytes) (v : Version) (h : parse s = some v) :
    ∀ i (hi : i < 4), v.toList[i]'(by simp [toList]; exact hi) =
      if h' : i < (splitOn 46 s).length then ((parseU32 (splitOn 46 s)[i]).getD 0) else 0 := by
  unfold parse at h
  simp only at h
  split at h
  · cases h
  split at h
  · rename_i ns hp
    intro i hi
    simp only [toList_of_ofList h, parts_of_parseParts hp, List.getElem_take, List.getElem_append,
      List.length_map, List.getElem_map, List.getElem_replicate]
  · cases h

theorem parse_wf (s : Bytes) (v : Version) (h : parse s = some v) : v.WF := by
  have bound : ∀ p : Bytes, (parseU32 p).getD 0 ≤ u32Max := fun p => by
    cases hp : parseU32 p with
    | none => exact Nat.zero_le _
    | some n =>
      obtain ⟨_, _, _, _, _, hle⟩ := (parseUnsigned_eq_some_iff u32Max p n).1 hp
      exact hle
  have le : ∀ i (hi : i < 4), v.toList[i]'(by simp [toList]; exact hi) ≤ u32Max := fun i hi => by
    rw [parse_value s v h i hi]
    split
    · exact bound _
    · exact Nat.zero_le _
  exact ⟨le 0 (by decide), le 1 (by decide), le 2 (by decide), le 3 (by decide)⟩

/-! Rejections named by the property, as corollaries of `parse_accepts_iff`. -/

theorem reject_too_many_parts (s : Bytes) (h : 4 < (splitOn 46 s).length) : parse s = none :=
  Option.not_isSome_iff_eq_none.1 fun hs => Nat.not_le_of_lt h ((parse_accepts_iff s).1 hs).1

theorem reject_bad_part (s : Bytes) (p : Bytes) (hp : p ∈ splitOn 46 s) (hbad : parseU32 p = none) :
    parse s = none :=
  Option.not_isSome_iff_eq_none.1 fun hs => by simpa [hbad] using ((parse_accepts_iff s).1 hs).2 p hp

theorem reject_empty_part (s : Bytes) (h : [] ∈ splitOn 46 s) : parse s = none :=
  reject_bad_part s [] h rfl

/-- A part is bad when it is non-numeric or overflows: the exact grammar of an accepted part. -/
theorem part_ok_iff (p : Bytes) (n : Nat) :
    parseU32 p = some n ↔
      ∃ body, (p = body ∨ p = 43 :: body) ∧ body ≠ [] ∧ (∀ b ∈ body, isDigit b) ∧
        valueOf body = n ∧ n ≤ 4294967295 :=
  parseUnsigned_eq_some_iff u32Max p n

/-- **print_four_parts.** The printed form always has exactly four dot-separated parts, the
canonical decimal renderings of the components. -/
theorem print_four_parts (v : Version) :
    splitOn 46 (print v) = [render v.a, render v.b, render v.c, render v.d] := by
  refine splitOn_joinWith 46 (v.toList.map render) (List.cons_ne_nil _ _) fun p hp => ?_
  obtain ⟨n, -, rfl⟩ := List.mem_map.1 hp
  exact not_mem_render (by decide) n

/-- **parse_print.** `parse (print v) = v` for every version. -/
theorem parse_print (v : Version) (h : v.WF) : parse (print v) = some v := by
  unfold parse
  simp only [print_four_parts]
  obtain ⟨ha, hb, hc, hd⟩ := h
  have e : ∀ n, n ≤ u32Max → parseU32 (render n) = some n := fun n hn => parseUnsigned_render _ n hn
  simp [parseParts, e _ ha, e _ hb, e _ hc, e _ hd, ofList]

theorem print_injective (v w : Version) (hv : v.WF) (hw : w.WF) (h : print v = print w) : v = w := by
  have := parse_print v hv
  rw [h, parse_print w hw] at this
  exact (Option.some.inj this).symm

/-- The printed text consists of digits and dots only, hence the JSON string token around it
needs no escaping: (de)serialisation uses exactly that string. -/
theorem print_chars (v : Version) : ∀ b ∈ print v, isDigit b ∨ b = 46 := by
  intro b hb
  simp only [print, toList, List.map, joinWith, List.mem_append, List.mem_cons] at hb
  rcases hb with h | h | h | h | h | h | h
  all_goals first | exact .inr h | exact .inl (render_all_digits _ b h)

theorem json_is_quoted_print (v : Version) : toJsonText v = [34] ++ print v ++ [34] := by
  simp [toJsonText]

/-- **ofArray_zero_fill.** -/
theorem ofArray_zero_fill (a b c d : Nat) :
    ofList [a] = some ⟨a, 0, 0, 0⟩ ∧ ofList [a, b] = some ⟨a, b, 0, 0⟩ ∧
    ofList [a, b, c] = some ⟨a, b, c, 0⟩ ∧ ofList [a, b, c, d] = some ⟨a, b, c, d⟩ := by
  simp [ofList]

def LexLt (v w : Version) : Prop :=
  v.a < w.a ∨ (v.a = w.a ∧ (v.b < w.b ∨ (v.b = w.b ∧ (v.c < w.c ∨ (v.c = w.c ∧ v.d < w.d)))))

theorem cmp_eq_iff (v w : Version) : cmp v w = .eq ↔ v = w := by
  unfold cmp
  cases v; cases w
  simp only [Ordering.then_eq_eq, Nat.compare_eq_eq, Version.mk.injEq]

/-- **compare_numeric.** -/
theorem cmp_lt_iff (v w : Version) : cmp v w = .lt ↔ LexLt v w := by
  unfold cmp LexLt
  simp only [Ordering.then_eq_lt, Nat.compare_eq_lt, Nat.compare_eq_eq]

theorem cmp_swap (v w : Version) : cmp w v = (cmp v w).swap := by
  unfold cmp
  simp only [Ordering.swap_then, Nat.compare_swap]

theorem cmp_gt_iff (v w : Version) : cmp v w = .gt ↔ LexLt w v := by
  rw [← cmp_lt_iff, cmp_swap v w]
  cases cmp v w <;> simp [Ordering.swap]

theorem lex_trans {a b c : Nat} {P Q R : Prop} (pqr : P → Q → R)
    (h1 : a < b ∨ (a = b ∧ P)) (h2 : b < c ∨ (b = c ∧ Q)) : a < c ∨ (a = c ∧ R) := by
  rcases h1 with h1 | ⟨rfl, p⟩ <;> rcases h2 with h2 | ⟨rfl, q⟩
  · exact .inl (Nat.lt_trans h1 h2)
  · exact .inl h1
  · exact .inl h2
  · exact .inr ⟨rfl, pqr p q⟩

theorem lexLt_trans (u v w : Version) (h1 : LexLt u v) (h2 : LexLt v w) : LexLt u w :=
  lex_trans (lex_trans (lex_trans Nat.lt_trans)) h1 h2

theorem lexLt_irrefl (v : Version) : ¬ LexLt v v := by unfold LexLt; omega

theorem lexLt_total (v w : Version) : LexLt v w ∨ v = w ∨ LexLt w v := by
  cases h : cmp v w
  · exact .inl ((cmp_lt_iff v w).1 h)
  · exact .inr (.inl ((cmp_eq_iff v w).1 h))
  · exact .inr (.inr ((cmp_gt_iff v w).1 h))

-- "1.+2.03", "1..2", "1.2.3.4.5", "4294967296", "4294967295.0.0.1"
example : parse [49, 46, 43, 50, 46, 48, 51] = some ⟨1, 2, 3, 0⟩ := by decide +kernel
example : parse [49, 46, 46, 50] = none := by decide +kernel
example : parse [49, 46, 50, 46, 51, 46, 52, 46, 53] = none := by decide +kernel
example : parse [52, 50, 57, 52, 57, 54, 55, 50, 57, 54] = none := by decide +kernel
example : parse [52, 50, 57, 52, 57, 54, 55, 50, 57, 53, 46, 48, 46, 48, 46, 49]
    = some ⟨4294967295, 0, 0, 1⟩ := by decide +kernel
example : (⟨1, 2, 3, 4294967295⟩ : Version).WF := by decide
example : cmp ⟨1, 9, 0, 0⟩ ⟨1, 10, 0, 0⟩ = .lt := by decide
example : LexLt ⟨1, 9, 0, 0⟩ ⟨1, 10, 0, 0⟩ := by unfold LexLt; decide

end Omaha.Version
