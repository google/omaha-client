/-
C01, DER layer: every ECDSA signature `(r, s)` with `r, s < 2²⁵⁶`, in its canonical DER encoding —
whatever its length, from 8 bytes (both values below 128) to 72 bytes (both with the top bit set) —
is decoded by the model of the `ecdsa`/`der` decoder to exactly `(r, s)`.  In particular the
decoder accepts the authentic signatures that happen to be shorter than 70 bytes (about one in
sixty).  That the model is the crates' decoder is the `cup` stream's business (it searches for
short signatures in every fifth case).
-/
import Omaha.Basic.Der

namespace Omaha.Der

open Omaha

def toBEAux : Nat → Nat → Bytes → Bytes
  | 0, _, acc => acc
  | fuel + 1, n, acc => if n = 0 then acc else toBEAux fuel (n / 256) (UInt8.ofNat (n % 256) :: acc)

def toBE (n : Nat) : Bytes := toBEAux n n []

/-- Content bytes of a canonical DER INTEGER holding `n ≥ 0`. -/
def intContent (n : Nat) : Bytes :=
  match toBE n with
  | [] => [0]
  | b :: tl => if b.toNat ≥ 128 then 0 :: b :: tl else b :: tl

def derInt (n : Nat) : Bytes := 2 :: UInt8.ofNat (intContent n).length :: intContent n

/-- Canonical DER encoding of the signature `(r, s)`. -/
def encodeSig (r s : Nat) : Bytes :=
  48 :: UInt8.ofNat ((derInt r).length + (derInt s).length) :: (derInt r ++ derInt s)

theorem beNat_concat (a : Bytes) (x : UInt8) : beNat (a ++ [x]) = beNat a * 256 + x.toNat := by
  simp [beNat]

theorem toBEAux_spec (fuel n : Nat) (acc : Bytes) (h : n ≤ fuel) :
    ∃ m, toBEAux fuel n acc = m ++ acc ∧ beNat m = n ∧ m.head? ≠ some 0 ∧ ∀ k, n < 256 ^ k → m.length ≤ k := by
  induction fuel generalizing n acc with
  | zero => exact ⟨[], rfl, (Nat.le_zero.1 h).symm, nofun, fun _ _ => Nat.zero_le _⟩
  | succ fuel ih =>
    unfold toBEAux
    split
    · exact ⟨[], rfl, .symm ‹_›, nofun, fun _ _ => Nat.zero_le _⟩
    · rename_i hn
      obtain ⟨m, e, hv, hd, hlen⟩ := ih (n / 256) (UInt8.ofNat (n % 256) :: acc)
        (Nat.le_of_lt_succ (Nat.lt_of_lt_of_le (Nat.div_lt_self (Nat.pos_of_ne_zero hn) (by decide)) h))
      have hb : (UInt8.ofNat (n % 256)).toNat = n % 256 := UInt8.toNat_ofNat_of_lt' (Nat.mod_lt _ (by decide))
      refine ⟨m ++ [UInt8.ofNat (n % 256)], by rw [e, List.append_assoc]; rfl, ?_, ?_, ?_⟩
      · rw [beNat_concat, hv, hb, Nat.div_add_mod']
      · cases m with
        | nil =>
          -- `n / 256 = beNat [] = 0`: the one digit of `n` is `n` itself, which is not 0
          intro h0
          have h1 : n % 256 = 0 := hb ▸ congrArg UInt8.toNat (Option.some.inj h0)
          exact hn (by rw [← Nat.div_add_mod n 256, ← hv, h1]; rfl)
        | cons b tl => exact hd
      · intro k hk
        cases k with
        | zero => exact absurd (Nat.lt_one_iff.1 hk) hn
        | succ k =>
          have := hlen k (Nat.div_lt_of_lt_mul (by rwa [Nat.pow_succ, Nat.mul_comm] at hk))
          rw [List.length_append]
          exact Nat.succ_le_succ this

theorem toBE_spec (n : Nat) :
    beNat (toBE n) = n ∧ (toBE n).head? ≠ some 0 ∧ ∀ k, n < 256 ^ k → (toBE n).length ≤ k := by
  obtain ⟨m, e, h⟩ := toBEAux_spec n n [] (Nat.le_refl n)
  rwa [toBE, e, List.append_nil]

theorem uintContent_intContent (n : Nat) (h : n < 256 ^ 32) :
    (intContent n).length ≤ 33 ∧ ∃ m, uintContent (intContent n) = some m ∧ beNat m = n ∧ m.length ≤ 32 := by
  obtain ⟨hv, hd, hlen⟩ := toBE_spec n
  have hlen := hlen 32 h
  unfold intContent
  cases hm : toBE n with
  | nil => exact ⟨by decide, [0], rfl, by rw [← hv, hm]; rfl, by decide⟩
  | cons b tl =>
    rw [hm] at hv hlen
    have hb : b ≠ 0 := fun h0 => hd (by rw [hm, h0]; rfl)
    simp only
    split
    · -- a padding zero in front of a byte with the top bit set
      rename_i hge
      exact ⟨Nat.succ_le_succ hlen, b :: tl, by simp [uintContent, Nat.not_lt.2 hge], hv, hlen⟩
    · rename_i hlt
      exact ⟨Nat.le_succ_of_le hlen, b :: tl, by simp [uintContent, hb, hlt], hv, hlen⟩

theorem readUInt_derInt (n : Nat) (h : n < 256 ^ 32) (rest : Bytes) :
    ∃ m, readUInt (derInt n ++ rest) = some (m, rest) ∧ beNat m = n ∧ m.length ≤ 32 := by
  obtain ⟨h33, m, hm, hv, h32⟩ := uintContent_intContent n h
  refine ⟨m, ?_, hv, h32⟩
  have hl : (UInt8.ofNat (intContent n).length).toNat = (intContent n).length :=
    UInt8.toNat_ofNat_of_lt' (Nat.lt_of_le_of_lt h33 (by decide))
  have hc : (intContent n).length < 128 ∧ (intContent n).length ≤ (intContent n ++ rest).length :=
    ⟨Nat.lt_of_le_of_lt h33 (by decide), by rw [List.length_append]; exact Nat.le_add_right _ _⟩
  simp only [derInt, List.cons_append, readUInt, hl, hc, and_self, if_true, List.take_left', List.drop_left', hm]

/-- **der_roundtrip.** For all `r, s < 2²⁵⁶` the canonical DER encoding of `(r, s)` — of any length —
decodes to `(r, s)`. -/
theorem decodeSig_encodeSig (r s : Nat) (hr : r < 256 ^ 32) (hs : s < 256 ^ 32) :
    decodeSig (encodeSig r s) = some (r, s) := by
  obtain ⟨mr, er, vr, lr⟩ := readUInt_derInt r hr (derInt s)
  obtain ⟨ms, es, vs, ls⟩ := readUInt_derInt s hs []
  rw [List.append_nil] at es
  -- an INTEGER is its content and two bytes more
  have h35 (n : Nat) (h : n < 256 ^ 32) : (derInt n).length ≤ 35 :=
    Nat.succ_le_succ (Nat.succ_le_succ (uintContent_intContent n h).1)
  have hlen : (derInt r).length + (derInt s).length ≤ 70 := Nat.add_le_add (h35 r hr) (h35 s hs)
  have hl : (UInt8.ofNat ((derInt r).length + (derInt s).length)).toNat = (derInt r).length + (derInt s).length :=
    UInt8.toNat_ofNat_of_lt' (Nat.lt_of_le_of_lt hlen (by decide))
  have hc : (derInt r).length + (derInt s).length < 128 := Nat.lt_of_le_of_lt hlen (by decide)
  simp only [encodeSig, decodeSig, hl, List.length_append, hc, and_self, if_true, er, es, lr, ls, vr, vs]

example : (encodeSig 1 1).length = 8 ∧ (encodeSig (256 ^ 32 - 1) (256 ^ 32 - 1)).length = 72 ∧
    (encodeSig (2 ^ 246) (2 ^ 254)).length = 69 ∧ decodeSig (encodeSig 1 (2 ^ 247)) = some (1, 2 ^ 247) := by decide +kernel

end Omaha.Der
