/-
C03 — the re-parse theorem: `Display` then `from_str` is the identity on well-formed parts
(`print_parse`), for every value of `Parts.scheme`.

The scheme-dependent half is `splitScheme`: `scheme://rest` splits into the scheme and the rest
for http, https and every generic scheme (`Scheme2::Other` in http 0.2: any run of scheme
characters of length ≤ 64 followed by "://", `OtherScheme`).  Conversely every generic scheme that
`parse` returns is an `OtherScheme`.  `reparse`, `reparse_other`, `decorate_preserves*`,
`decorate_canonical`, `decorate_twice` and `parse_print` are instances of `print_parse`.
-/
import Omaha.Props.C03

namespace Omaha.Uri

open Omaha

/-- What `Scheme2::parse` requires of a generic scheme: scheme characters only, at most 64 of them,
and not one of the two built-in schemes in any letter case (those are recognised before the generic
scan and stored as `.http` / `.https`). -/
structure OtherScheme (sc : Bytes) : Prop where
  chars : ∀ b ∈ sc, schemeChar b = true
  short : sc.length ≤ 64
  not_http : sc.map lower ≠ [104, 116, 116, 112]
  not_https : sc.map lower ≠ [104, 116, 116, 112, 115]

theorem schemeChar_ne_colon (b : UInt8) (h : schemeChar b = true) : b ≠ 58 := by
  rintro rfl; revert h; decide

theorem lower_ne_colon (b : UInt8) (h : schemeChar b = true) : lower b ≠ 58 := by
  unfold lower
  split
  · rename_i hr
    intro h'
    -- an upper-case letter that `+ 32` takes to `:` would be byte 26
    have : b = 26 := by rw [← UInt8.add_sub_cancel b 32, h']; rfl
    subst this
    exact absurd hr (by decide)
  · exact schemeChar_ne_colon b h

theorem scanScheme_skip (full sc tail : Bytes) (i : Nat) (hsc : ∀ b ∈ sc, schemeChar b = true) :
    scanScheme full i (sc ++ tail) = scanScheme full (i + sc.length) tail := by
  induction sc generalizing i with
  | nil => rfl
  | cons b sc ih =>
    have hb := hsc b List.mem_cons_self
    rw [List.cons_append, scanScheme, if_neg (schemeChar_ne_colon b hb), if_pos hb,
      ih (i + 1) fun x hx => hsc x (List.mem_cons_of_mem b hx), List.length_cons, Nat.add_right_comm, Nat.add_assoc]

theorem scanScheme_colon (full r : Bytes) (i n : Nat) :
    scanScheme full i (58 :: r) = .other n ↔
      i + 3 ≤ full.length ∧ (full.drop (i + 1)).take 2 = [47, 47] ∧ i ≤ 64 ∧ i = n := by
  rw [scanScheme, if_pos rfl]
  by_cases h1 : full.length < i + 3
  · rw [if_pos h1]; exact ⟨nofun, fun h => absurd h.1 (Nat.not_le_of_lt h1)⟩
  · rw [if_neg h1]
    by_cases h2 : (full.drop (i + 1)).take 2 = [47, 47]
    · rw [if_neg (not_not_intro h2)]
      by_cases h3 : i > 64
      · rw [if_pos h3]; exact ⟨nofun, fun h => absurd h.2.2.1 (Nat.not_le_of_lt h3)⟩
      · rw [if_neg h3]
        exact ⟨fun h => ⟨Nat.le_of_not_lt h1, h2, Nat.le_of_not_lt h3, SchemeScan.other.inj h⟩, fun h => by rw [h.2.2.2]⟩
    · rw [if_pos h2]; exact ⟨nofun, fun h => absurd h.2.1 h2⟩

theorem scanScheme_other (full sc r : Bytes) (i : Nat) (hsc : ∀ b ∈ sc, schemeChar b = true)
    (h2 : (full.drop (i + sc.length + 1)).take 2 = [47, 47]) (hl : i + sc.length + 3 ≤ full.length)
    (h64 : i + sc.length ≤ 64) :
    (match scanScheme full i (sc ++ 58 :: r) with | .other n => n = i + sc.length | _ => False) := by
  rw [scanScheme_skip full sc _ i hsc, (scanScheme_colon full r _ _).2 ⟨hl, h2, h64, rfl⟩]

theorem scanScheme_facts (full : Bytes) (rest : Bytes) (i n : Nat) (hfull : full.drop i = rest)
    (h : scanScheme full i rest = .other n) :
    i ≤ n ∧ n ≤ 64 ∧ (∀ b ∈ (full.drop i).take (n - i), schemeChar b = true) ∧
      (full.drop n).take 3 = [58, 47, 47] := by
  -- `rest` is a run `sc` of scheme characters, then nothing or a byte `b` that is not one
  have hsc : ∀ b ∈ rest.takeWhile schemeChar, schemeChar b = true := List.all_eq_true.1 List.all_takeWhile
  have hd := List.head?_dropWhile_not schemeChar rest
  rw [← List.takeWhile_append_dropWhile (p := schemeChar) (l := rest)] at h hfull
  generalize rest.takeWhile schemeChar = sc at h hfull hsc
  generalize rest.dropWhile schemeChar = tail at h hfull hd
  rw [scanScheme_skip _ _ _ _ hsc] at h
  have htail : full.drop (i + sc.length) = tail := by rw [← List.drop_drop, hfull, List.drop_left]
  cases tail with
  | nil => cases h
  | cons b r =>
    by_cases hb : b = 58
    · subst hb
      obtain ⟨-, h2, h64, rfl⟩ := (scanScheme_colon full r _ _).1 h
      rw [← List.drop_drop, htail] at h2
      exact ⟨Nat.le_add_right _ _, h64, by rw [hfull, Nat.add_sub_cancel_left, List.take_left]; exact hsc,
        by rw [htail, List.take_succ_cons]; exact congrArg _ h2⟩
    · rw [scanScheme, if_neg hb, if_neg (by simpa using hd)] at h; cases h

/-- The guard of `splitScheme` for a built-in scheme `t` ("http", "https"), on a text `sc://rest`. -/
theorem lower_prefix_iff (sc rest t : Bytes) (hc : ∀ b ∈ sc, schemeChar b = true) (ht : (58 : UInt8) ∉ t) :
    ((sc ++ 58 :: 47 :: 47 :: rest).length ≥ t.length + 3 ∧
      ((sc ++ 58 :: 47 :: 47 :: rest).take (t.length + 3)).map lower = t ++ [58, 47, 47]) ↔
      sc.map lower = t := by
  have l58 : lower 58 = 58 := by decide
  have l47 : lower 47 = 47 := by decide
  induction sc generalizing t with
  | nil =>
    cases t with
    | nil => simp [l58, l47]
    | cons c t =>
      have : (58 : UInt8) ≠ c := fun h => ht (by simp [h])
      simp [l58, this]
  | cons b sc ih =>
    cases t with
    | nil => simp [lower_ne_colon b (hc b (by simp))]
    | cons c t =>
      have := ih t (fun x hx => hc x (by simp [hx])) (fun h => ht (by simp [h]))
      simp only [List.cons_append, List.length_cons, List.take_succ_cons, List.map_cons, List.cons.injEq,
        Nat.add_right_comm _ 1 3, Nat.add_le_add_iff_right, ge_iff_le] at this ⊢
      exact and_left_comm.trans (and_congr_right' this)

theorem not_http_prefix (sc rest : Bytes) (hs : OtherScheme sc) :
    ¬ ((sc ++ 58 :: 47 :: 47 :: rest).length ≥ 7 ∧
        ((sc ++ 58 :: 47 :: 47 :: rest).take 7).map lower = [104, 116, 116, 112, 58, 47, 47]) :=
  fun h => hs.not_http ((lower_prefix_iff sc rest [104, 116, 116, 112] hs.chars (by simp)).1 h)

theorem not_https_prefix (sc rest : Bytes) (hs : OtherScheme sc) :
    ¬ ((sc ++ 58 :: 47 :: 47 :: rest).length ≥ 8 ∧
        ((sc ++ 58 :: 47 :: 47 :: rest).take 8).map lower = [104, 116, 116, 112, 115, 58, 47, 47]) :=
  fun h => hs.not_https ((lower_prefix_iff sc rest [104, 116, 116, 112, 115] hs.chars (by simp)).1 h)

theorem splitScheme_schemeText (sch : Scheme) (rest : Bytes) (hs : ∀ sc, sch = .other sc → OtherScheme sc)
    (hr : rest ≠ []) :
    splitScheme (schemeText sch ++ 58 :: 47 :: 47 :: rest) = .ok (some sch, rest) := by
  cases sch with
  | http => rfl
  | https => rfl
  | other sc =>
    have hs := hs sc rfl
    have hlen : sc.length + 3 < (sc ++ 58 :: 47 :: 47 :: rest).length := by
      rw [List.length_append]
      exact Nat.add_lt_add_left (Nat.lt_add_of_pos_left (List.length_pos_iff.2 hr)) _
    have hscan : scanScheme (sc ++ 58 :: 47 :: 47 :: rest) 0 (sc ++ 58 :: 47 :: 47 :: rest) = .other sc.length := by
      rw [scanScheme_skip _ sc _ 0 hs.chars, Nat.zero_add]
      exact (scanScheme_colon _ _ _ _).2
        ⟨Nat.le_of_lt hlen, by rw [← List.drop_drop, List.drop_left]; rfl, hs.short, rfl⟩
    rw [schemeText, splitScheme, if_neg (not_http_prefix sc rest hs), if_neg (not_https_prefix sc rest hs),
      if_pos (Nat.lt_of_le_of_lt (Nat.le_add_left 3 _) hlen), hscan]
    simp

theorem splitScheme_other_facts (s sc rest : Bytes) (h : splitScheme s = .ok (some (.other sc), rest)) :
    OtherScheme sc := by
  unfold splitScheme at h
  obtain ⟨hn1, h⟩ := of_ite_eq h nofun
  obtain ⟨hn2, h⟩ := of_ite_eq h nofun
  split at h
  · split at h
    · cases h
    · cases h
    · rename_i n hsc
      cases h
      obtain ⟨-, h64, hch, h3⟩ := scanScheme_facts s s 0 n rfl hsc
      have hs : s.take n ++ 58 :: 47 :: 47 :: s.drop (n + 3) = s := by
        have := List.take_append_drop 3 (s.drop n)
        rw [h3, List.drop_drop] at this
        exact (congrArg (s.take n ++ ·) this).trans (List.take_append_drop n s)
      have key := fun t ht => hs ▸ lower_prefix_iff (s.take n) (s.drop (n + 3)) t hch ht
      exact ⟨hch, Nat.le_trans (List.length_take_le _ _) h64, fun hm => hn1 ((key _ (by simp)).2 hm),
        fun hm => hn2 ((key _ (by simp)).2 hm)⟩
  · cases h

theorem parse_other_scheme (url : Bytes) (u : Parts) (sc : Bytes) (hp : parse url = .ok u)
    (hsch : u.scheme = some (.other sc)) : OtherScheme sc := by
  rcases parse_ok url u hp with ⟨hhead, h⟩ | ⟨sch, rest, hsp, h⟩
  · rw [(parseOrigin_wf url u hhead h).2] at hsch; cases hsch
  · rw [(parseAfterScheme_wf sch rest u h).2] at hsch
    cases hsch
    exact splitScheme_other_facts url sc rest hsp

theorem parse_of_split (s rest : Bytes) (sch : Scheme) (h : splitScheme s = .ok (some sch, rest))
    (hlen : s.length ≤ 65534) : parse s = parseAfterScheme sch rest := by
  have h1 : s ≠ [] := by rintro rfl; cases h
  have h2 : s ≠ [42] := by rintro rfl; cases h
  have h3 : s.head? ≠ some 47 := by
    intro h3
    obtain ⟨r, rfl⟩ := List.head?_eq_some_iff.1 h3
    have hscan : scanScheme (47 :: r) 0 (47 :: r) = .none := rfl
    simp [splitScheme, hscan, lower] at h
  rw [parse, if_neg h1, if_neg (Nat.not_lt.2 hlen), if_neg h2, if_neg h3, parseAbs, h]

/-- **print_parse.** Printing well-formed parts (what `parse` returns: `parse_wf`,
`parse_other_scheme`) and parsing the text gives the same parts, an empty path read as "/" —
whatever the scheme, with or without a query. -/
theorem print_parse (u : Parts) (hu : WF u) (hs : ∀ sc, u.scheme = some (.other sc) → OtherScheme sc)
    (hlen : (print u).length ≤ 65534) :
    parse (print u) = .ok { u with path := pathOrSlash u.path } := by
  obtain ⟨hP, t, ht⟩ := hu.slash
  obtain ⟨sch, A, P, q⟩ := u
  simp only [print, ht] at hP hlen ⊢
  cases sch with
  | none =>
    obtain ⟨rfl, -⟩ := hu.origin rfl
    simp only [schemePrefix, List.nil_append, List.append_nil] at hlen ⊢
    rw [parse, if_neg (by simp), if_neg (Nat.not_lt.2 hlen), if_neg (by simp), if_pos (by rfl), parseOrigin,
      parsePQ_print _ q hP hu.query_ok]
  | some sch =>
    obtain ⟨hok, hne⟩ := hu.auth_abs rfl
    simp only [schemePrefix, List.append_assoc, List.cons_append, List.nil_append] at hlen ⊢
    rw [parse_of_split _ _ sch (splitScheme_schemeText sch _ (fun sc h => hs sc (by rw [h]))
        (List.append_ne_nil_of_left_ne_nil hne _)) hlen,
      parseAfterScheme_print sch A t q hu.auth_nodelim hok hne hP hu.query_ok]

/-- **parse_print.** `Display` then `from_str` is the identity on every parsed URL (an empty path
read as "/"), with or without a query. -/
theorem parse_print (url : Bytes) (u : Parts) (hp : parse url = .ok u) (hlen : (print u).length ≤ 65534) :
    parse (print u) = .ok { u with path := pathOrSlash u.path } :=
  print_parse u (parse_wf url u hp) (parse_other_scheme url u · hp) hlen

/-- `print_parse` for the parts with one parameter appended, provided the parameter text is made of
query bytes other than `#` (true of `cup2key=<id>:<hex>`, see `param_chars`) and the result stays
within `http::Uri`'s length limit. -/
theorem reparse_any (u : Parts) (hu : WF u) (kv : Bytes)
    (hs : ∀ sc, u.scheme = some (.other sc) → OtherScheme sc)
    (hkvq : kv.all queryChar = true) (hkv35 : (35 : UInt8) ∉ kv)
    (hlen : (schemePrefix u.scheme ++ u.authority ++ (pathOrSlash u.path ++ 63 :: queryWith u.query kv)).length ≤ 65534) :
    parse (schemePrefix u.scheme ++ u.authority ++ (pathOrSlash u.path ++ 63 :: queryWith u.query kv)) =
      .ok ⟨u.scheme, u.authority, pathOrSlash u.path, some (queryWith u.query kv)⟩ := by
  have hpr : print ⟨u.scheme, u.authority, pathOrSlash u.path, some (queryWith u.query kv)⟩ =
      schemePrefix u.scheme ++ u.authority ++ (pathOrSlash u.path ++ 63 :: queryWith u.query kv) := by
    simp [print, querySuffix, pathOrSlash_idem]
  have := print_parse _ (hu.repath (some (queryWith u.query kv))
    (by rintro _ ⟨⟩; exact queryWith_ok _ kv hu.query_ok hkvq hkv35)) hs (by rw [hpr]; exact hlen)
  rwa [hpr, pathOrSlash_idem] at this

/-- **reparse.** `reparse_any` for an http, https or origin-form service URL. -/
theorem reparse (u : Parts) (hu : WF u) (kv : Bytes)
    (hsch : u.scheme = none ∨ u.scheme = some .http ∨ u.scheme = some .https)
    (hkvq : kv.all queryChar = true) (hkv35 : (35 : UInt8) ∉ kv)
    (hlen : (schemePrefix u.scheme ++ u.authority ++ (pathOrSlash u.path ++ 63 :: queryWith u.query kv)).length ≤ 65534) :
    parse (schemePrefix u.scheme ++ u.authority ++ (pathOrSlash u.path ++ 63 :: queryWith u.query kv)) =
      .ok ⟨u.scheme, u.authority, pathOrSlash u.path, some (queryWith u.query kv)⟩ :=
  reparse_any u hu kv (fun sc h => by rcases hsch with h' | h' | h' <;> rw [h'] at h <;> cases h) hkvq hkv35 hlen

/-- **reparse_other.** `reparse_any` for a service URL with a generic scheme. -/
theorem reparse_other (u : Parts) (hu : WF u) (kv : Bytes) (sc : Bytes)
    (hsch : u.scheme = some (.other sc)) (hs : OtherScheme sc)
    (hkvq : kv.all queryChar = true) (hkv35 : (35 : UInt8) ∉ kv)
    (hlen : (schemePrefix u.scheme ++ u.authority ++ (pathOrSlash u.path ++ 63 :: queryWith u.query kv)).length ≤ 65534) :
    parse (schemePrefix u.scheme ++ u.authority ++ (pathOrSlash u.path ++ 63 :: queryWith u.query kv)) =
      .ok ⟨u.scheme, u.authority, pathOrSlash u.path, some (queryWith u.query kv)⟩ :=
  reparse_any u hu kv (fun sc' h => by rw [hsch] at h; cases h; exact hs) hkvq hkv35 hlen

/-- **decorate_preserves_any.** For *every* service URL the model of `Uri::from_str` accepts —
origin form, http, https or a generic scheme — the decorated URL parses back to the same scheme,
authority and path ("" read as "/") with the query extended by exactly the `cup2key` parameter
(unless the result exceeds `http::Uri`'s length limit). -/
theorem decorate_preserves_any (url : Bytes) (kid : Nat) (nonce out : Bytes) (u : Parts)
    (hp : parse url = .ok u) (hd : decorate url kid nonce = .ok out) (hlen : out.length ≤ 65534) :
    parse out = .ok ⟨u.scheme, u.authority, pathOrSlash u.path,
                     some (queryWith u.query (cup2keyName ++ 61 :: Cup.cup2key kid nonce))⟩ := by
  have hc := param_chars kid nonce
  rw [decorate_text_of_parse hp hd, List.append_assoc] at hlen ⊢
  exact reparse_any u (parse_wf url u hp) _ (parse_other_scheme url u · hp)
    (List.all_eq_true.2 fun c hc' => (hc c hc').1) (fun hm => (hc 35 hm).2.2 rfl) hlen

/-- **decorate_preserves.** Decorating an http / https / origin-form service URL yields a URL that
parses to the same scheme, authority and path ("" read as "/") with the query extended by exactly
the `cup2key` parameter. -/
theorem decorate_preserves (url : Bytes) (kid : Nat) (nonce out : Bytes) (u : Parts)
    (hp : parse url = .ok u)
    (hsch : u.scheme = none ∨ u.scheme = some .http ∨ u.scheme = some .https)
    (hd : decorate url kid nonce = .ok out) (hlen : out.length ≤ 65534) :
    parse out = .ok ⟨u.scheme, u.authority, pathOrSlash u.path,
                     some (queryWith u.query (cup2keyName ++ 61 :: Cup.cup2key kid nonce))⟩ :=
  decorate_preserves_any url kid nonce out u hp hd hlen

/-- **decorate_preserves_other.** `decorate_preserves` for a service URL with a generic scheme.
The hypothesis `OtherScheme sc` follows from the others (`parse_other_scheme`). -/
theorem decorate_preserves_other (url : Bytes) (kid : Nat) (nonce out : Bytes) (u : Parts) (sc : Bytes)
    (hp : parse url = .ok u) (hsch : u.scheme = some (.other sc)) (hs : OtherScheme sc)
    (hd : decorate url kid nonce = .ok out) (hlen : out.length ≤ 65534) :
    parse out = .ok ⟨u.scheme, u.authority, pathOrSlash u.path,
                     some (queryWith u.query (cup2keyName ++ 61 :: Cup.cup2key kid nonce))⟩ :=
  decorate_preserves_any url kid nonce out u hp hd hlen

/-- **decorate_canonical.** The decorated URL is in canonical form: what a receiver parses out of
it prints back to exactly the text that was sent, so client and server agree on the bytes of the
request line whichever of the two forms they keep. -/
theorem decorate_canonical (url : Bytes) (kid : Nat) (nonce out : Bytes) (u : Parts)
    (hp : parse url = .ok u) (hd : decorate url kid nonce = .ok out) (hlen : out.length ≤ 65534) :
    ∃ u2, parse out = .ok u2 ∧ print u2 = out := by
  refine ⟨_, decorate_preserves_any url kid nonce out u hp hd hlen, ?_⟩
  rw [decorate_text_of_parse hp hd]
  simp [print, querySuffix, pathOrSlash_idem]

/-- **decorate_twice.** Decorating an already decorated URL keeps the first `cup2key` parameter in
place and appends a second one (the library never does this; the theorem says that an
existing `cup2key` in the configured URL is treated like any other query text). -/
theorem decorate_twice (url : Bytes) (k1 k2 : Nat) (n1 n2 out1 out2 : Bytes) (u : Parts)
    (hp : parse url = .ok u) (hd1 : decorate url k1 n1 = .ok out1) (hl1 : out1.length ≤ 65534)
    (hd2 : decorate out1 k2 n2 = .ok out2) :
    out2 = out1 ++ 38 :: (cup2keyName ++ 61 :: Cup.cup2key k2 n2) := by
  have h1 := decorate_preserves_any url k1 n1 out1 u hp hd1 hl1
  rw [decorate_text_of_parse h1 hd2, decorate_text_of_parse hp hd1]
  simp [queryWith, pathOrSlash_idem, List.append_assoc]

-- "ftp+x" is a generic scheme; "Http" is not
example : OtherScheme [102, 116, 112, 43, 120] := ⟨by decide, by decide, by decide, by decide⟩
example : ¬ OtherScheme [72, 116, 116, 112] := fun h => h.not_http (by decide)
-- "ab://h/p?x" decorated with key 7 and nonce [0xAB] re-parses with the scheme kept
example : (match decorate [97,98,58,47,47,104,47,112,63,120] 7 [0xAB] with
    | .ok out => (match parse out with
        | .ok u => u == ⟨some (.other [97,98]), [104], [47,112], some [120,38,99,117,112,50,107,101,121,61,55,58,97,98]⟩
        | _ => false)
    | _ => false) = true := by decide +kernel

end Omaha.Uri
