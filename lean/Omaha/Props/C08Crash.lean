/-
C08, crash clause, as theorems over whole traces.

`Lemmas/SMStore` proves that the store is always the replay of the successful storage operations
logged in the trace (`history_store_is_replay`).  The storage the process dies with at any instant is
therefore determined by the prefix of the trace up to that instant — and the trace, storage
operations with their results included, is what the correspondence compares with the real state
machine.  So the crash clause is stated of `replay` on an arbitrary list of actions.
-/
import Omaha.Lemmas.SMStore
import Omaha.Props.C08Order

namespace Omaha.SM

open Omaha

/-- The history up to and including its last successful commit (traces are newest first). -/
def lastCommit : List Action → List Action
  | [] => []
  | a :: older =>
    match a with
    | .storage .commit true => a :: older
    | _ => lastCommit older

theorem replay_cons_committed (a : Action) (older : List Action) (s : Store) (h : a ≠ .storage .commit true) :
    (replay (a :: older) s).committed = (replay older s).committed := by
  cases a with
  | storage op ok =>
    cases ok with
    | false => rfl
    | true => exact committed_only_by_commit op _ fun e => h (e ▸ rfl)
  | _ => rfl

/-- **only_commit_moves_durable_state (every prefix).** For every list of actions — so for every
prefix of every history — the durable map is what it was right after the last successful commit. -/
theorem replay_committed_lastCommit (d : List Action) (s : Store) :
    (replay d s).committed = (replay (lastCommit d) s).committed := by
  fun_induction lastCommit d with
  | case1 => rfl
  | case2 => rfl
  | case3 a older h ih => exact (replay_cons_committed a older s h).trans ih

theorem lastCommit_suffix (d : List Action) : ∃ newer, d = newer ++ lastCommit d := by
  fun_induction lastCommit d with
  | case1 => exact ⟨[], rfl⟩
  | case2 => exact ⟨[], rfl⟩
  | case3 a _ _ ih => exact ih.elim fun newer e => ⟨a :: newer, congrArg (a :: ·) e⟩

theorem lastCommit_cases (d : List Action) :
    lastCommit d = [] ∨ ∃ older, lastCommit d = .storage .commit true :: older := by
  fun_induction lastCommit d with
  | case1 => exact .inl rfl
  | case2 older => exact .inr ⟨older, rfl⟩
  | case3 _ _ _ ih => exact ih

/-- **commit_is_a_snapshot.** Right after a successful commit, what would survive a crash is, key by
key, exactly what the store showed at that instant (pending writes over the older durable map):
one consistent snapshot. -/
theorem commit_is_snapshot (older : List Action) (s : Store) (k : Bytes) :
    (replay (.storage .commit true :: older) s).crash.get k = (replay older s).get k :=
  crash_commit_get _ k

/-- **crash_consistent (every prefix of every trace).** If the process dies after any prefix `d` of a
history (any environment interaction: `d` is any list of actions), the storage that survives shows,
for every key, what the store showed at the instant of the last successful commit in `d` — or the
initial durable map if there was none.  Never a mixture of two commits, never a partial commit. -/
theorem crash_survivor_is_last_commit (d : List Action) (s : Store) (k : Bytes) :
    (replay d s).crash.get k =
      (match lastCommit d with
       | .storage .commit true :: older => (replay older s).get k
       | _ => lookup k s.committed) := by
  rw [crash_get, replay_committed_lastCommit]
  rcases lastCommit_cases d with h | ⟨older, h⟩ <;> rw [h]
  · rfl
  · exact commit_is_snapshot older s k

/-- **crash_consistent (histories).** Over any number of iterations of `run` from any start state: the
history's trace extends the old one by `d`; for *every* split `d = newer ++ sofar` (the process dies
when only `sofar` has happened) the surviving storage is determined by `sofar` alone — it is the
replay of `sofar`'s successful storage operations, crashed — and by `crash_survivor_is_last_commit`
shows the snapshot of `sofar`'s last successful commit.  At the end of the history the model's own
store is that replay. -/
theorem history_crash_consistent (us : List UnitEnv) (rs : RunState) (w : World) :
    ∃ d, (runUnits us rs w).2.2.trace = d ++ w.trace ∧ (runUnits us rs w).2.2.store = replay d w.store ∧
      ∀ newer sofar, d = newer ++ sofar → ∀ k,
        (replay sofar w.store).crash.get k =
          (match lastCommit sofar with
           | .storage .commit true :: older => (replay older w.store).get k
           | _ => lookup k w.store.committed) := by
  obtain ⟨d, e, hs⟩ := history_store_is_replay us rs w
  exact ⟨d, e, hs, fun _ sofar _ k => crash_survivor_is_last_commit sofar w.store k⟩

/-- **rebuilt_machine_sees_last_commit.** The context a state machine rebuilt after a crash presents
to its policy is the one it would have loaded from the store as it stood at the last successful
commit before the crash. -/
theorem rebuilt_machine_sees_last_commit (older : List Action) (newer : List Action) (s : Store)
    (hn : lastCommit (newer ++ .storage .commit true :: older) = .storage .commit true :: older) :
    loadCtx (replay (newer ++ .storage .commit true :: older) s).crash = loadCtx (replay older s).commit := by
  refine loadCtx_of_get_eq _ _ fun k => ?_
  rw [crash_survivor_is_last_commit, hn, commit_get]

/-! ### Non-vacuity: two commits, a crash in the middle of the third batch of writes -/

example :
    let d : List Action :=
      [.storage (.set [1] (.int 9)) true,            -- newest: written, not committed
       .storage .commit true, .storage (.set [2] (.int 7)) true, .storage (.remove [1]) true,
       .storage .commit false,                       -- a failed commit changes nothing
       .storage .commit true, .storage (.set [1] (.int 5)) true]
    ((replay d {}).crash.get [1], (replay d {}).crash.get [2]) = (none, some (.int 7)) := by decide +kernel

end Omaha.SM
