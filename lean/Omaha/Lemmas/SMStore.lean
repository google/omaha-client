/-
The store is a replay of the logged storage operations.

`Sl w w'`: the trace of `w'` extends that of `w` by some actions `d`, and the store of `w'` is the
store of `w` with the *successful storage operations among `d`* applied in order.  It holds across
every stretch of the model's execution (`Steps.sl`): nothing in the model changes the store except
through a logged operation.  Consequence (Props/C08Crash): what survives a crash after any prefix of
a history's trace is determined by the storage operations of that prefix, and the committed map only
ever changes at a logged, successful `commit`.
-/
import Omaha.Lemmas.SMChain

namespace Omaha.SM

open Omaha

/-- Apply the successful storage operations among `d` (newest first), oldest first. -/
def replay : List Action → Store → Store
  | [], s => s
  | a :: older, s =>
    match a with
    | .storage op true => applyOp op (replay older s)
    | _ => replay older s

theorem replay_append (d2 d1 : List Action) (s : Store) : replay (d2 ++ d1) s = replay d2 (replay d1 s) := by
  induction d2 with
  | nil => rfl
  | cons a d2 ih =>
    simp only [List.cons_append, replay, ih]

-- shaped like `Dr` (Lemmas/SMDraws), of which only the field `ext` has a counterpart here
structure Sl (w w' : World) : Prop where
  ext : ∃ d, w'.trace = d ++ w.trace ∧ w'.store = replay d w.store

theorem Sl.refl (w : World) : Sl w w := ⟨⟨[], rfl, rfl⟩⟩

theorem Sl.trans {w1 w2 w3 : World} (h1 : Sl w1 w2) (h2 : Sl w2 w3) : Sl w1 w3 := by
  obtain ⟨d1, e1, s1⟩ := h1
  obtain ⟨d2, e2, s2⟩ := h2
  exact ⟨⟨d2 ++ d1, by rw [e2, e1, List.append_assoc], by rw [s2, s1, replay_append]⟩⟩

theorem sl_same {w w' : World} (ht : w'.trace = w.trace) (hs : w'.store = w.store) : Sl w w' :=
  ⟨⟨[], by simp [ht], by simp [replay, hs]⟩⟩

/-- **The one place the store changes**: a storage operation is logged with its success flag, and the
store changes exactly when the flag says it succeeded. -/
theorem sl_storeOp (op : StoreOp) (w : World) : Sl w (storeOp op w).2 := by
  rw [storeOp_eq]
  refine ⟨⟨[.storage op (!w.env.storeFail.headD false)], rfl, ?_⟩⟩
  cases w.env.storeFail.headD false <;> rfl

theorem Steps.sl {S : Scope} {w w' : World} (h : Steps S w w') : Sl w w' := by
  induction h with
  | refl => exact Sl.refl _
  | emit a _ hp _ ih =>
    refine ih.trans ⟨⟨[a], rfl, ?_⟩⟩
    cases a with
    | storage => cases hp
    | _ => rfl
  | store op _ _ ih => exact ih.trans (sl_storeOp op _)
  | send k b _ _ _ ih => exact ih.trans ⟨⟨[_], sendRequest_mkReq k _ _, by rw [sendRequest_eq]; rfl⟩⟩
  | quiet _ q _ ih => exact ih.trans (sl_same q.trace q.store)

/-- **The store is the replay of the history's storage log.** Over any number of iterations of `run`,
the final store is the initial store with exactly the successful storage operations of the trace
applied in order: no other part of the model touches storage. -/
theorem history_store_is_replay (us : List UnitEnv) (rs : RunState) (w : World) :
    ∃ d, (runUnits us rs w).2.2.trace = d ++ w.trace ∧ (runUnits us rs w).2.2.store = replay d w.store :=
  (steps_runUnits (S := ⟨fun _ => true, fun _ => True, true⟩) (fun _ => rfl) rfl (fun _ => trivial) (.refl w)).sl.ext

end Omaha.SM
