/-
The request builder's one list operation, `insertAndModify` (`insert_and_modify_entry`): the facts the
properties about builders are read from.
-/
import Omaha.Request

namespace Omaha.SM

open Omaha

theorem forall_mem_insertAndModify {P : Request.AppEntry → Prop} (entries : List Request.AppEntry) (app : App)
    (f : Request.AppEntry → Request.AppEntry) (he : ∀ e ∈ entries, P e)
    (hf : ∀ e, e ∈ entries ∨ e = { app := app } → P (f e)) :
    ∀ e ∈ Request.insertAndModify entries app f, P e := by
  fun_induction Request.insertAndModify entries app f with
  | case1 => exact List.forall_mem_singleton.2 (hf _ (Or.inr rfl))
  | case2 x xs hx =>
    exact List.forall_mem_cons.2 ⟨hf x (Or.inl List.mem_cons_self), fun e h => he e (List.mem_cons_of_mem x h)⟩
  | case3 x xs hx ih =>
    exact List.forall_mem_cons.2 ⟨he x List.mem_cons_self,
      ih (fun e h => he e (List.mem_cons_of_mem x h)) fun e h => hf e (h.imp_left (List.mem_cons_of_mem x))⟩

theorem insertAndModify_twice (entries : List Request.AppEntry) (app : App) (f g : Request.AppEntry → Request.AppEntry)
    (hf : ∀ e, (f e).app.id = e.app.id) :
    Request.insertAndModify (Request.insertAndModify entries app f) app g = Request.insertAndModify entries app (g ∘ f) := by
  induction entries with
  | nil => simp [Request.insertAndModify, hf]
  | cons x xs ih =>
    by_cases h : x.app.id = app.id <;> simp [Request.insertAndModify, hf, h, ih]

theorem insertAndModify_append (es es' : List Request.AppEntry) (app : App) (f : Request.AppEntry → Request.AppEntry)
    (h : ∀ e ∈ es, e.app.id ≠ app.id) :
    Request.insertAndModify (es ++ es') app f = es ++ Request.insertAndModify es' app f := by
  induction es with
  | nil => rfl
  | cons x xs ih =>
    rw [List.cons_append, Request.insertAndModify, if_neg (h x List.mem_cons_self),
      ih (fun e he => h e (List.mem_cons_of_mem _ he)), List.cons_append]

theorem insertAndModify_new (entries : List Request.AppEntry) (app : App) (f : Request.AppEntry → Request.AppEntry)
    (h : ∀ e ∈ entries, e.app.id ≠ app.id) :
    Request.insertAndModify entries app f = entries ++ [f { app := app }] := by
  have := insertAndModify_append entries [] app f h
  rwa [List.append_nil] at this

end Omaha.SM
