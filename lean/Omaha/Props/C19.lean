/-
C19 — Times survive persistence and compare consistently.
All statements quantify over every `Int` (nanoseconds / microseconds) in the stated range.
-/
import Omaha.Time

namespace Omaha.Time

/-- Rust divides magnitudes (`as_micros` on a `Duration`) and puts the sign back: that is `Int.tdiv`,
and the remainder `Int.tmod`. -/
theorem tdiv_eq (t : Int) (k : Nat) :
    t.tdiv k = if 0 ≤ t then ((t.toNat / k : Nat) : Int) else -(((-t).toNat / k : Nat) : Int) := by
  cases t <;> rfl

theorem tmod_eq (t : Int) (k : Nat) :
    t.tmod k = if 0 ≤ t then ((t.toNat % k : Nat) : Int) else -(((-t).toNat % k : Nat) : Int) := by
  cases t <;> rfl

theorem fromMicros_eq (m : Int) : fromMicros m = m * 1000 := by
  unfold fromMicros; split <;> omega

theorem fromMicros_inWall (m : Int) (h : InI64 m) : InWall (fromMicros m) := by
  rw [fromMicros_eq]
  unfold InI64 i64Min i64Max at h
  unfold InWall wallMin wallMax i64Min i64Max
  omega

/-- **toMicros_spec.** The conversion truncates toward the epoch (`Int.tdiv` rounds toward zero)
and returns `none` exactly when the truncated value does not fit in i64. -/
theorem toMicros_spec (t : Int) :
    toMicros t = if InI64 (t.tdiv 1000) then some (t.tdiv 1000) else none := by
  unfold toMicros InI64
  rw [show t.tdiv 1000 = _ from tdiv_eq t 1000]
  -- of the two bounds only the one on the side of the sign can fail
  by_cases ht : 0 ≤ t <;> simp only [ht, if_true, if_false]
  · simp only [Int.le_trans (by decide : i64Min ≤ 0) (Int.natCast_nonneg _), true_and]
  · simp only [Int.le_trans (Int.neg_nonpos_of_nonneg (Int.natCast_nonneg _)) (by decide : 0 ≤ i64Max), and_true]

theorem toMicros_eq_some_iff (t q : Int) : toMicros t = some q ↔ t.tdiv 1000 = q ∧ InI64 q := by
  rw [toMicros_spec]
  split
  · rename_i h; exact ⟨fun e => ⟨Option.some.inj e, Option.some.inj e ▸ h⟩, fun e => e.1 ▸ rfl⟩
  · rename_i h; exact ⟨nofun, fun e => absurd (e.1 ▸ e.2) h⟩

theorem toMicros_none_iff (t : Int) : toMicros t = none ↔ ¬ InI64 (t.tdiv 1000) := by
  rw [toMicros_spec]; split <;> simp_all

/-- **from_to_micros.** Converting any i64 microsecond count to a system time and back is the
identity, over the whole i64 range (including `i64::MIN`). -/
theorem from_to_micros (m : Int) (h : InI64 m) : toMicros (fromMicros m) = some m := by
  rw [fromMicros_eq, toMicros_spec, Int.mul_tdiv_cancel _ (by decide), if_pos h]

/-- Truncation is toward the epoch, by less than one microsecond. -/
theorem toMicros_toward_epoch (t q : Int) (h : toMicros t = some q) :
    (0 ≤ t → 0 ≤ q ∧ q * 1000 ≤ t ∧ t < q * 1000 + 1000) ∧
    (t < 0 → q ≤ 0 ∧ t ≤ q * 1000 ∧ q * 1000 - 1000 < t) := by
  obtain ⟨rfl, -⟩ := (toMicros_eq_some_iff t q).1 h
  rw [show t.tdiv 1000 = _ from tdiv_eq t 1000]
  split <;> omega

/-- Never a panic: the conversion is a total function (every input yields `some` or `none`);
and it succeeds on the whole range of times that `fromMicros` can produce. -/
theorem toMicros_total (t : Int) : (∃ q, toMicros t = some q) ∨ toMicros t = none := by
  cases h : toMicros t
  · exact Or.inr rfl
  · exact Or.inl ⟨_, rfl⟩

theorem truncate_spec (t : Int) : truncateSubMicro t = t.tdiv 1000 * 1000 := by
  have e : truncateSubMicro t = t - t.tmod 1000 := by
    rw [show t.tmod 1000 = _ from tmod_eq t 1000]
    by_cases ht : 0 ≤ t <;> simp only [truncateSubMicro, ht, if_true, if_false, Int.sub_neg]
  rw [e, Int.tmod_def, Int.sub_sub_self, Int.mul_comm]

/-- **truncate_agrees.** The helper agrees with the storage round trip wherever the latter stores a
value. -/
theorem truncate_agrees (t q : Int) (h : toMicros t = some q) :
    fromMicros q = truncateSubMicro t := by
  obtain ⟨rfl, -⟩ := (toMicros_eq_some_iff t q).1 h
  rw [fromMicros_eq, truncate_spec]

/-- **store_reload.** Storing and reloading a time yields the same instant at microsecond
precision: the reloaded value is the truncation, it converts to the same microsecond count, and
it is within a microsecond of the original on the epoch side. -/
theorem store_reload (t q : Int) (h : toMicros t = some q) :
    storeReload t = some (truncateSubMicro t) ∧ toMicros (truncateSubMicro t) = some q := by
  constructor
  · unfold storeReload; rw [h]; simp [truncate_agrees t q h]
  · rw [← truncate_agrees t q h]; exact from_to_micros q ((toMicros_eq_some_iff t q).1 h).2

/-- **truncate_idem.** -/
theorem truncate_idem (t : Int) : truncateSubMicro (truncateSubMicro t) = truncateSubMicro t := by
  rw [truncate_spec, truncate_spec, Int.mul_tdiv_cancel _ (by decide)]

theorem CT.add_eq (c : CT) (d : Nat) : c.add d = (wallAdd c.wall d).map (⟨·, c.mono + d⟩) := by
  unfold CT.add; cases wallAdd c.wall d <;> rfl

theorem CT.sub_eq (c : CT) (d : Nat) : c.sub d = (wallSub c.wall d).map (⟨·, c.mono - d⟩) := by
  unfold CT.sub; cases wallSub c.wall d <;> rfl

/-- **components_kept** (add). -/
theorem pct_add_components (p r : PCT) (d : Nat) (h : p.add d = some r) :
    r.destructure = (p.destructure.1.map (· + (d : Int)), p.destructure.2.map (· + (d : Int))) := by
  cases p with
  | mono m => cases h; rfl
  | wall w | complex c =>
    simp [PCT.add, CT.add_eq, wallAdd] at h
    obtain ⟨_, rfl⟩ := h
    rfl

/-- **components_kept** (sub). -/
theorem pct_sub_components (p r : PCT) (d : Nat) (h : p.sub d = some r) :
    r.destructure = (p.destructure.1.map (· - (d : Int)), p.destructure.2.map (· - (d : Int))) := by
  cases p with
  | mono m => cases h; rfl
  | wall w | complex c =>
    simp [PCT.sub, CT.sub_eq, wallSub] at h
    obtain ⟨_, rfl⟩ := h
    rfl

/-- Addition fails (panics in Rust) exactly on overflow of the wall clock range. -/
theorem pct_add_none_iff (p : PCT) (d : Nat) :
    p.add d = none ↔ ∃ w, p.destructure.1 = some w ∧ wallMax < w + d := by
  cases p <;> simp [PCT.add, CT.add_eq, wallAdd, PCT.destructure, Int.not_le]

theorem pct_sub_none_iff (p : PCT) (d : Nat) :
    p.sub d = none ↔ ∃ w, p.destructure.1 = some w ∧ w - d < wallMin := by
  cases p <;> simp [PCT.sub, CT.sub_eq, wallSub, PCT.destructure, Int.not_le]

/-- **components_kept** (complete-with): present components win, missing ones are filled. -/
theorem completeWith_spec (p : PCT) (c : CT) :
    (p.completeWith c).wall = (match p.destructure.1 with | some w => w | none => c.wall) ∧
    (p.completeWith c).mono = (match p.destructure.2 with | some m => m | none => c.mono) := by
  cases p <;> simp [PCT.completeWith, PCT.destructure]

/-- **components_kept** (destructure): exactly the components the value was built from, and at
least one of them. -/
theorem destructure_spec (p : PCT) :
    (p = .wall w ↔ p.destructure = (some w, none)) ∧
    (p = .mono m ↔ p.destructure = (none, some m)) ∧
    (p = .complex ⟨w, m⟩ ↔ p.destructure = (some w, some m)) ∧
    (p.destructure.1.isSome ∨ p.destructure.2.isSome) := by
  cases p with
  | wall w' => simp [PCT.destructure]
  | mono m' => simp [PCT.destructure]
  | complex c => cases c; simp [PCT.destructure]

/-- **after_or_eq_any_iff.** Holds exactly when at least one component present on both sides
(a complete time has both) has been reached. -/
theorem after_or_eq_any_iff (c : CT) (p : PCT) :
    c.isAfterOrEqAny p = true ↔
      (∃ w, p.destructure.1 = some w ∧ w ≤ c.wall) ∨ (∃ m, p.destructure.2 = some m ∧ m ≤ c.mono) := by
  cases p with
  | wall w => simp [CT.isAfterOrEqAny, PCT.destructure]
  | mono m => simp [CT.isAfterOrEqAny, PCT.destructure]
  | complex o => simp [CT.isAfterOrEqAny, PCT.destructure]

/-! ### Non-vacuity and the boundary witnesses of the two repaired defects -/

example : InI64 i64Min ∧ toMicros (fromMicros i64Min) = some i64Min := by decide
example : toMicros (-1500) = some (-1) ∧ truncateSubMicro (-1500) = -1000 := by decide
example : truncateSubMicro (-2000) = -2000 := by decide
example : toMicros (i64Max * 1000 + 1000) = none := by decide
example : toMicros (i64Min * 1000 - 999) = some i64Min ∧ toMicros (i64Min * 1000 - 1000) = none := by decide
example : (PCT.wall wallMax).add 1 = none ∧ (PCT.wall wallMax).add 0 = some (.wall wallMax) := by decide
example : (CT.mk 5 5).isAfterOrEqAny (.complex ⟨9, 5⟩) = true ∧ (CT.mk 5 5).isAfterOrEqAny (.complex ⟨9, 6⟩) = false := by decide

end Omaha.Time
