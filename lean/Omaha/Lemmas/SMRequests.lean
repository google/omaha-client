/-
Every request of an update check is built from the check's parameters and session: read off
`Steps`, whose scope records what the requests are built from.
-/
import Omaha.Lemmas.SMChain

namespace Omaha.SM

open Omaha

def HttpFrom (B : Request.Builder → Prop) : Action → Prop
  | .http r _ => ∃ b n, B b ∧ r = mkReq r.kind b n
  | _ => True

theorem Steps.reqs {S : Scope} {w w' : World} (h : Steps S w w') : Adds (HttpFrom S.req) w w' := by
  induction h with
  | refl => exact Adds.refl _ _
  | emit a _ hp _ ih =>
    refine ih.trans (adds_emit _ a _ ?_)
    cases a with
    | http => cases hp
    | _ => trivial
  | store op _ _ ih => exact ih.trans (.of_cons (storeOp_trace op _) trivial)
  | send k b _ _ hb ih => exact ih.trans (.of_cons (sendRequest_mkReq k _ _) ⟨_, _, hb, rfl⟩)
  | quiet _ q _ ih => exact ih.trans (Adds.of_eq_trace _ _ _ q.trace)

/-- **Every request of a check** — each update-check attempt and each event report — is built
from the parameters the check was started with, within the check's one session, with update-check
flags equal to the parameters' flags wherever present. -/
theorem addsR_performUpdateCheck (params : RequestParams) (apps : List App) (w : World) :
    Adds (HttpFrom (Canon params (sessionOf params w))) w (performUpdateCheck params apps w).2 :=
  (steps_performUpdateCheck (S := ⟨tCheckBody, Canon params (sessionOf params w), false⟩) (fun _ h => h)
    (fun _ h => h) (.refl w)).reqs

theorem addsB_attemptLoop (B : Request.Builder → Prop) (hpres : ∀ b w, B b → B (withRequestId b w).1)
    (fuel attempt : Nat) (b : Request.Builder) (w : World) (hb : B b) :
    Adds (HttpFrom B) w (attemptLoop fuel attempt b w).2.2 :=
  (steps_attemptLoop (S := ⟨tLoop, B, false⟩) rfl rfl rfl rfl rfl rfl rfl (fun w' => hpres b w' hb) (.refl w)).reqs

end Omaha.SM
