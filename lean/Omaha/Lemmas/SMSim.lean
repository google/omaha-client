/-
Non-interference of storage: two worlds that differ only in what storage holds, which storage
operations are scripted to fail, and the storage / metric actions logged so far, are indistinguishable
to everything else the state machine does.  `Sim` (Lemmas/SMTrace) is that relation; every model
function preserves it and returns the same results (except values that flow only into metrics).
One lemma per model function, each following the function's definition: a step that storage cannot
influence is taken on both sides (`sim_emit`, `sim_tick`, `sim_ctx`, …), a metric (`sim_metric`) or
storage operations (`Sim.inv` with the one-run lemmas `inv_*`) on either side are absorbed, and where
the function branches the two runs take the same branch (`both_ite`, or `split` once the results
compared are known to be equal).
-/
import Omaha.Lemmas.SMTrace
import Omaha.Lemmas.SMBuilders

namespace Omaha.SM

open Omaha

variable {w w' : World}

/-- Local to this file: the lemmas Props/C14 uses spell the conjunction out, and `show Same _ _` at the head of
their proofs folds it back. -/
def Same {α} (p p' : α × World) : Prop := p.1 = p'.1 ∧ Sim p.2 p'.2

theorem Same.ret {α} {a : α} (s : Sim w w') : Same (a, w) (a, w') := ⟨rfl, s⟩

def Same₂ {α β} (p p' : α × β × World) : Prop := p.1 = p'.1 ∧ p.2.1 = p'.2.1 ∧ Sim p.2.2 p'.2.2

theorem Same.bind {α β} {p p' : α × World} (h : Same p p') {f : α → World → β × World}
    (hf : ∀ a x x', Sim x x' → Same (f a x) (f a x')) : Same (f p.1 p.2) (f p'.1 p'.2) :=
  h.1 ▸ hf p.1 _ _ h.2

/-- Both runs take the same branch (`R` is `Sim`, `Same` or `Option.Rel Sim`).  Unlike `split`, this
does not rewrite inside the branches, which hold the rest of the function on both sides. -/
theorem both_ite {α} {R : α → α → Prop} {c : Prop} [Decidable c] {a a' b b' : α}
    (ha : c → R a a') (hb : ¬c → R b b') : R (if c then a else b) (if c then a' else b') := by
  split
  · exact ha ‹_›
  · exact hb ‹_›

theorem sim_emit (a : Action) (s : Sim w w') : Sim (emit a w) (emit a w') :=
  { s with trace := by simp only [emit, List.filter_cons, s.trace] }

theorem sim_emitOf (a : List App → Ctx → Action) (s : Sim w w') :
    Sim (emit (a w.apps w.ctx) w) (emit (a w'.apps w'.ctx) w') := by
  rw [s.apps, s.ctx]
  exact sim_emit _ s

theorem sim_yield (e : Event) (s : Sim w w') : Sim (yieldEv e w) (yieldEv e w') := sim_emit _ s

theorem sim_metric (m m' : Metric) (s : Sim w w') : Sim (metric m w) (metric m' w') :=
  s.inv (inv_metric m w) (inv_metric m' w')

theorem sim_tick (dt : Clock) {w w' : World} (s : Sim w w') : Sim (tick dt w) (tick dt w') :=
  { s with clock := by simp only [tick, s.clock] }

theorem sim_ctx (g : Ctx → Ctx) (s : Sim w w') : Sim { w with ctx := g w.ctx } { w' with ctx := g w'.ctx } :=
  { s with ctx := congrArg g s.ctx }

theorem sim_apps (g : List App → List App) (s : Sim w w') :
    Sim { w with apps := g w.apps } { w' with apps := g w'.apps } :=
  { s with apps := congrArg g s.apps }

theorem sim_nTimer (g : Nat → Nat) (s : Sim w w') :
    Sim { w with nTimer := g w.nTimer } { w' with nTimer := g w'.nTimer } :=
  { s with nTimer := congrArg g s.nTimer }

theorem sim_env {e e' : Env} (h : EnvSim e e') (s : Sim w w') : Sim { w with env := e } { w' with env := e' } :=
  { s with env := h }

theorem sim_foldl {β} {f : World → β → World} (hf : ∀ b x x', Sim x x' → Sim (f x b) (f x' b)) (l : List β)
    (s : Sim w w') : Sim (l.foldl f w) (l.foldl f w') := by
  induction l generalizing w w' with
  | nil => exact s
  | cons b rest ih => exact ih (hf b _ _ s)

theorem sim_nextGuid (s : Sim w w') : Same (nextGuid w) (nextGuid w') :=
  ⟨s.nGuid, { s with nGuid := congrArg (· + 1) s.nGuid }⟩

theorem sim_withRequestId (b : Request.Builder) (s : Sim w w') : Same (withRequestId b w) (withRequestId b w') :=
  ⟨congrArg (fun g => { b with requestId := some (guidBytes g) }) s.nGuid, (sim_nextGuid s).2⟩

theorem sim_sendRequest (k : ReqKind) (b : Request.Builder) (s : Sim w w') :
    Same (sendRequest k b w) (sendRequest k b w') := by
  rw [sendRequest_eq, sendRequest_eq, ← s.env.http k, ← congrArg Option.isSome s.cup, ← s.nNonce]
  exact .ret (sim_emit _ { s with nNonce := rfl, env := s.env.popHttp k })

theorem sim_applyPoll (poll : Option Nat) (s : Sim w w') : Sim (applyPoll poll w) (applyPoll poll w') := by
  unfold applyPoll
  rw [s.ctx]
  refine both_ite (fun _ => ?_) (fun _ => s)
  refine Sim.inv ?_ ((inv_persistCtx _).trans (inv_storeOp_ _ _)) ((inv_persistCtx _).trans (inv_storeOp_ _ _))
  exact sim_yield _ { s with ctx := rfl }

theorem sim_handleOutcome (o : HttpOutcome) (s : Sim w w') : Same (handleOutcome o w) (handleOutcome o w') := by
  cases o with
  | fail k dt => exact .ret (sim_tick dt s)
  | response status ra body auth dt =>
    rw [handleOutcome_response, handleOutcome_response, s.cup]
    exact both_ite (fun _ => .ret (sim_tick dt s)) (fun _ => .ret (sim_applyPoll _ (sim_tick dt s)))

theorem sim_omahaRequest (k : ReqKind) (b : Request.Builder) (s : Sim w w') :
    Same (omahaRequest k b w) (omahaRequest k b w') := by
  unfold omahaRequest
  rw [show buildError w b = buildError w' b by unfold buildError; rw [s.cfg, s.cup]]
  split
  · exact .ret (sim_emit _ s)
  · simp only
    exact (sim_sendRequest k b s).bind fun o _ _ => sim_handleOutcome o

theorem sim_request (k : ReqKind) (b : Request.Builder) (s : Sim w w') :
    Same (omahaRequest k (withRequestId b w).1 (withRequestId b w).2)
      (omahaRequest k (withRequestId b w').1 (withRequestId b w').2) :=
  (sim_withRequestId b s).bind fun b _ _ => sim_omahaRequest k b

theorem sim_backoff (attempt : Nat) (s : Sim w w') : Sim (backoff attempt w) (backoff attempt w') := by
  unfold backoff
  rw [popJitter_eq, popJitter_eq, s.env.jitter, s.env.backoffDt]
  exact sim_tick _ (sim_nTimer (· + 1) (sim_emit _ (sim_env { s.env with jitter := rfl, backoffDt := rfl } s)))

theorem sim_attemptOnce (b : Request.Builder) (s : Sim w w') : Same (attemptOnce b w) (attemptOnce b w') := by
  unfold attemptOnce
  obtain ⟨e1, s1⟩ := sim_request .updateCheck b s
  rw [e1, s.clock, s1.clock]
  exact ⟨rfl, both_ite (fun _ => sim_metric _ _ s1) (fun _ => s1)⟩

theorem sim_attemptLoop (fuel attempt : Nat) (b : Request.Builder) (s : Sim w w') :
    (attemptLoop fuel attempt b w).1 = (attemptLoop fuel attempt b w').1 ∧
    (attemptLoop fuel attempt b w).2.1 = (attemptLoop fuel attempt b w').2.1 ∧
    Sim (attemptLoop fuel attempt b w).2.2 (attemptLoop fuel attempt b w').2.2 := by
  show Same₂ _ _
  induction fuel generalizing attempt b w w' with
  | zero => exact ⟨rfl, rfl, s⟩
  | succ fuel ih =>
    obtain ⟨e1, s1⟩ := sim_attemptOnce b s
    rw [attemptLoop_succ, attemptLoop_succ, e1, (sim_withRequestId b s).1, s1.ctx]
    split
    · exact ⟨rfl, rfl, s1⟩
    · exact both_ite (fun _ => ⟨rfl, rfl, sim_yield _ s1⟩) (fun _ => ih _ _ (sim_backoff attempt s1))

theorem sim_report (b : Request.Builder) (lost : List Omaha.Event) (s : Sim w w') :
    Sim (report b lost w) (report b lost w') := by
  unfold report
  obtain ⟨e1, s1⟩ := sim_request .eventReport b s
  rw [e1]
  split
  · exact s1
  · exact sim_foldl (fun _ _ _ => sim_metric _ _) lost s1

theorem sim_reportEvent (params : RequestParams) (ev : Omaha.Event) (apps : List App) (session : Nat)
    (nv : List (Bytes × Option Bytes)) (ns : Option Nat) (s : Sim w w') :
    Sim (reportEvent params ev apps session nv ns w) (reportEvent params ev apps session nv ns w') := by
  rw [reportEvent_eq, reportEvent_eq]
  exact sim_report _ _ s

theorem sim_reportResults (params : RequestParams) (evs : List (App × Omaha.Event)) (session : Nat)
    (s : Sim w w') : Sim (reportResults params evs session w) (reportResults params evs session w') := by
  rw [reportResults_eq, reportResults_eq]
  exact sim_report _ _ s

theorem sim_reportCheckInterval (src : InstallSource) (s : Sim w w') :
    Sim (reportCheckInterval src w) (reportCheckInterval src w') := by
  unfold reportCheckInterval
  rw [s.ctx, s.clock]
  refine sim_ctx (fun c => { c with sched := { c.sched with lastCheck := some (.complex ⟨w'.clock.wall, w'.clock.mono⟩) } }) ?_
  split
  · exact both_ite (fun _ => sim_metric _ _ s) (fun _ => s)
  · exact both_ite (fun _ => sim_metric _ _ s) (fun _ => s)
  · exact s

theorem sim_runInstall (planId : Nat) (s : Sim w w') : Sim (runInstall planId w) (runInstall planId w') := by
  unfold runInstall
  rw [s.env.installDt, s.env.progress, s.env.results]
  exact sim_tick _ (sim_foldl (fun k _ _ => sim_yield (.progress k)) _ (sim_emit _ s))

theorem sim_durationMetric (startWall : Int) (results : List AppResult) (s : Sim w w') :
    Same (durationMetric startWall results w) (durationMetric startWall results w') := by
  unfold durationMetric
  rw [s.clock]
  exact both_ite (fun _ => .ret (sim_metric _ _ s)) (fun _ => .ret s)

/-- The finish record: the first-seen time (which comes from storage) may differ between the two
runs — it only feeds a metric. -/
theorem sim_recordFinish (planId : Nat) (fs fs' finish : Int) (nv : List (Bytes × Option Bytes)) (s : Sim w w') :
    Same (recordFinish planId fs finish nv w) (recordFinish planId fs' finish nv w') := by
  have i1 : ∀ (f : Int) (x : World), Sim x (storeOp_ .commit (setTargetVersion nv (setTime kFinishTime finish (firstSeenMetric f finish x)).2)) :=
    fun f x => (((inv_firstSeenMetric f finish x).trans (inv_setTime _ _ _)).trans (inv_setTargetVersion _ _)).trans (inv_storeOp_ _ _)
  have s4 := s.inv (i1 fs w) (i1 fs' w')
  unfold recordFinish
  simp only
  rw [s4.env.rebootNeeded]
  exact .ret (sim_emit _ s4)

theorem sim_finishInstall (planId : Nat) (fs fs' finish : Int) (nv : List (Bytes × Option Bytes))
    (response : Resp.Response) (results : List AppResult) (s : Sim w w') :
    Same (finishInstall planId fs finish nv response results w) (finishInstall planId fs' finish nv response results w') := by
  unfold finishInstall
  refine both_ite (fun _ => .ret (sim_yield _ (sim_foldl (fun m _ _ => sim_yield (.installerError m)) _ s))) (fun _ => ?_)
  obtain ⟨e, s1⟩ := sim_recordFinish planId fs fs' finish nv s
  rw [e]
  exact .ret s1

theorem sim_reportInstall (params : RequestParams) (apps : List App) (session : Nat) (nv : List (Bytes × Option Bytes))
    (response : Resp.Response) (results : List AppResult) (ns : Option Nat) (s : Sim w w') :
    Sim (reportInstall params apps session nv response results ns w) (reportInstall params apps session nv response results ns w') :=
  both_ite (fun _ => sim_reportResults _ _ _ s) (fun _ => sim_reportEvent _ _ _ _ _ _ (sim_reportResults _ _ _ s))

theorem sim_installPhase (params : RequestParams) (apps : List App) (session : Nat)
    (nv : List (Bytes × Option Bytes)) (response : Resp.Response) (planId : Nat) (s : Sim w w') :
    Same (installPhase params apps session nv response planId w) (installPhase params apps session nv response planId w') := by
  unfold installPhase
  simp only
  have s1 := sim_reportEvent params (eventSuccess 13) apps session nv none (sim_yield (.state .installing) s)
  rw [s1.clock]
  generalize (reportEvent params (eventSuccess 13) apps session nv none (yieldEv (.state .installing) w')).clock.wall = t
  have s2 := s1.inv (inv_recordFirstSeen (planIdText planId) t _) (inv_recordFirstSeen (planIdText planId) t _)
  have s3 := sim_runInstall planId s2
  rw [s2.env.results, s3.clock, (sim_durationMetric t _ s3).1]
  exact sim_finishInstall planId _ _ _ nv response _ (sim_reportInstall _ _ _ _ _ _ _ (sim_durationMetric t _ s3).2)

theorem sim_updatePhase (params : RequestParams) (apps : List App) (session : Nat) (response : Resp.Response)
    (s : Sim w w') : Same (updatePhase params apps session response w) (updatePhase params apps session response w') := by
  unfold updatePhase
  simp only [emit_env]
  rw [congrArg Option.isSome s.cup, s.env.plan, s.env.canStart]
  have s0 := sim_emit (.plan params.source w'.cup.isSome w'.env.plan) s
  split
  · exact .ret (sim_reportEvent _ _ _ _ _ _ (sim_yield _ (sim_yield _ s0)))
  · split
    · exact .ret (sim_yield _ (sim_reportEvent _ _ _ _ _ _ (sim_emit _ s0)))
    · exact .ret (sim_reportEvent _ _ _ _ _ _ (sim_emit _ s0))
    · exact sim_installPhase _ _ _ _ _ _ (sim_emit _ s0)

theorem sim_responsePhase (params : RequestParams) (apps : List App) (session : Nat) (body : Bytes) (s : Sim w w') :
    Same (responsePhase params apps session body w) (responsePhase params apps session body w') := by
  unfold responsePhase
  split
  · exact .ret s
  · exact .ret (sim_reportEvent _ _ _ _ _ _ (sim_yield _ s))
  · exact both_ite (fun _ => .ret (sim_yield _ (sim_yield _ s))) (fun _ => sim_updatePhase _ _ _ _ (sim_yield _ s))

theorem sim_checkStart (params : RequestParams) (s : Sim w w') :
    Same (nextGuid (reportCheckInterval params.source (yieldEv (.state (.checking params.source)) w)))
      (nextGuid (reportCheckInterval params.source (yieldEv (.state (.checking params.source)) w'))) :=
  sim_nextGuid (sim_reportCheckInterval params.source (sim_yield _ s))

theorem sim_requestPhase (params : RequestParams) (apps : List App) (s : Sim w w') :
    (requestPhase params apps w).1 = (requestPhase params apps w').1 ∧
    (requestPhase params apps w).2.1 = (requestPhase params apps w').2.1 ∧
    Sim (requestPhase params apps w).2.2 (requestPhase params apps w').2.2 := by
  obtain ⟨e, s1⟩ := sim_checkStart params s
  unfold requestPhase
  simp only
  rw [e]
  exact sim_attemptLoop 3 1 _ s1

theorem sim_performUpdateCheck (params : RequestParams) (apps : List App) (s : Sim w w') :
    Same (performUpdateCheck params apps w) (performUpdateCheck params apps w') := by
  obtain ⟨e1, e2, s1⟩ := sim_requestPhase params apps s
  have e3 : sessionOf params w = sessionOf params w' := (sim_checkStart params s).1
  rw [performUpdateCheck_eq, performUpdateCheck_eq, e1, e2, e3]
  split
  · exact .ret (sim_metric _ _ s1)
  · exact sim_responsePhase _ _ _ _ (sim_metric _ _ s1)

theorem sim_setLastUpdate (s : Sim w w') : Sim (setLastUpdate w) (setLastUpdate w') :=
  { s with ctx := by simp only [setLastUpdate, s.ctx, s.clock] }

theorem sim_reportAttemptsCheck (success : Bool) (s : Sim w w') :
    Sim (reportAttemptsCheck success w) (reportAttemptsCheck success w') :=
  both_ite
    (fun _ => sim_metric _ _ (sim_ctx (fun c => { c with st := { c.st with failures := 0 } }) s))
    (fun _ => sim_ctx (fun c => { c with st := { c.st with failures := satAdd32 c.st.failures } }) s)

theorem sim_prepareOk (ok : CheckOk) (s : Sim w w') : Sim (prepareOk ok w) (prepareOk ok w') := by
  unfold prepareOk
  simp only
  have s1 := sim_apps (updateFromOmaha · ok.responses) (sim_reportAttemptsCheck true (sim_setLastUpdate s))
  split
  · exact s1.inv (inv_reportAttemptsInstall _ _) (inv_reportAttemptsInstall _ _)
  · exact s1

theorem sim_prepareErr (e : CheckErr) (s : Sim w w') : Sim (prepareErr e w) (prepareErr e w') :=
  sim_reportAttemptsCheck false (sim_metric _ _ (both_ite (fun _ => sim_setLastUpdate s) (fun _ => s)))

theorem sim_closeCheck (r : Except CheckErr (List AppResp)) (s : Sim w w') :
    Sim (closeCheck r w) (closeCheck r w') :=
  (sim_yield (.result r) (sim_emitOf (fun _ c => .event (.protocol c.st))
    (sim_emitOf (fun _ c => .event (.schedule c.sched)) s))).inv (inv_persistData _) (inv_persistData _)

theorem sim_startUpdateCheck (params : RequestParams) {w w' : World} (s : Sim w w') :
    (startUpdateCheck params w).1 = (startUpdateCheck params w').1 ∧
    Sim (startUpdateCheck params w).2 (startUpdateCheck params w').2 := by
  show Same _ _
  unfold startUpdateCheck
  rw [s.apps]
  obtain ⟨e1, s1⟩ := sim_performUpdateCheck params w'.apps s
  simp only
  rw [e1]
  split
  · exact .ret s1
  · exact .ret (sim_closeCheck _ (sim_prepareOk _ s1))
  · exact .ret (sim_closeCheck _ (sim_prepareErr _ s1))

theorem sim_pingFailed (s : Sim w w') : Sim (pingFailed w) (pingFailed w') :=
  (sim_ctx (fun c => { c with st := { c.st with failures := satAdd32 c.st.failures } }) s).inv
    (inv_persistData _) (inv_persistData _)

theorem sim_pingSucceeded (response : Resp.Response) (s : Sim w w') :
    Sim (pingSucceeded response w) (pingSucceeded response w') :=
  (sim_apps (updateFromOmaha · (makeAppResponses response .noUpdate))
    (sim_emitOf (fun _ c => .event (.schedule c.sched))
      (sim_setLastUpdate (sim_ctx (fun c => { c with st := { c.st with failures := 0 } }) s)))).inv
    (inv_persistData _) (inv_persistData _)

theorem sim_pingOmaha (s : Sim w w') : Same (pingOmaha w) (pingOmaha w') := by
  unfold pingOmaha
  simp only
  obtain ⟨e0, s0⟩ := sim_nextGuid s
  rw [s.apps, e0]
  generalize ({ (List.foldl _ _ w'.apps : Request.Builder) with sessionId := _ } : Request.Builder) = b
  obtain ⟨e1, s1⟩ := sim_request .ping b s0
  rw [e1]
  split
  · exact .ret (sim_pingFailed s1)
  · split
    · exact .ret s1
    · exact .ret (sim_pingFailed s1)
    · exact .ret (sim_pingSucceeded _ s1)

theorem sim_updateNext (t : Timing) {w w' : World} (s : Sim w w') : Sim (updateNext t w) (updateNext t w') :=
  sim_emitOf (fun _ c => .event (.schedule c.sched))
    (sim_ctx (fun c => { c with sched := { c.sched with next := some t } })
      (sim_emitOf (fun a c => .policyNext a c.sched c.st t) s))

theorem sim_armWait (t : Timing) {w w' : World} (s : Sim w w') :
    (armWait t w).1 = (armWait t w').1 ∧ Sim (armWait t w).2 (armWait t w').2 := by
  unfold armWait
  split
  · exact ⟨by simp only [emit, s.nTimer], sim_nTimer (· + 2) (sim_emit _ (sim_emit _ s))⟩
  · exact ⟨by simp only [emit, s.nTimer], sim_nTimer (· + 1) (sim_emit _ s)⟩

/-- The index of the 30-minute timer and the timers of the ping wait are read off the world: the two
runs agree on them. -/
theorem sim_rebootLoop (opts : InstallSource) {t30 t30' : Nat} (ht : t30 = t30') {pingNeed pingNeed' : List Nat}
    (hp : pingNeed = pingNeed') (steps : List (WaitStep × Clock)) (answers : List Bool) (nexts : List Timing)
    (s : Sim w w') :
    Same (rebootLoop opts t30 pingNeed steps answers nexts w) (rebootLoop opts t30' pingNeed' steps answers nexts w') := by
  induction steps generalizing opts t30 t30' pingNeed pingNeed' answers nexts w w' with
  | nil => exact .ret s
  | cons sd rest ih =>
    subst ht hp
    obtain ⟨step, dt⟩ := sd
    cases step with
    | fire i =>
      unfold rebootLoop
      simp only
      have s1 := sim_emit (.timerFire i) (sim_tick dt s)
      refine both_ite (fun _ => ?_) (fun _ => both_ite (fun _ => ?_) (fun _ => ih _ rfl rfl _ _ s1))
      · have s2 := sim_emit (.policyRebootAllowed opts (popBool answers).1) s1
        refine both_ite (fun _ => .ret s2) (fun _ => ?_)
        have s3 := sim_emit (.timerArm (.for_ (1800 * 1000000000))) s2
        exact ih _ s3.nTimer rfl _ _ (sim_nTimer (· + 1) s3)
      · obtain ⟨e2, s2⟩ := sim_pingOmaha s1
        rw [e2]
        split
        · exact .ret s2
        · obtain ⟨e4, s4⟩ := sim_armWait (popTiming nexts).1 (sim_updateNext (popTiming nexts).1 s2)
          exact ih _ rfl e4 _ _ s4
    | ctl id src =>
      unfold rebootLoop
      simp only
      have s1 := sim_emit (.reply id .alreadyRunning) (sim_tick dt s)
      refine both_ite (fun _ => ?_) (fun _ => ih _ rfl rfl _ _ s1)
      have s2 := sim_emit (.policyRebootAllowed .onDemand (popBool answers).1) s1
      exact both_ite (fun _ => .ret s2) (fun _ => ih _ rfl rfl _ _ s2)

theorem sim_rebootWait (opts : InstallSource) (u : UnitEnv) (s : Sim w w') :
    Same (rebootWait opts u w) (rebootWait opts u w') := by
  unfold rebootWait
  simp only
  have s0 := sim_emit (.policyRebootAllowed opts (popBool u.rebootAllowed).1) s
  refine both_ite (fun _ => .ret s0) (fun _ => ?_)
  have s1 := sim_emit (.timerArm (.for_ (1800 * 1000000000))) s0
  obtain ⟨e4, s4⟩ := sim_armWait (popTiming u.rebootNext).1 (sim_updateNext (popTiming u.rebootNext).1 (sim_nTimer (· + 1) s1))
  exact sim_rebootLoop _ s1.nTimer e4 _ _ _ s4

theorem sim_doReboot (u : UnitEnv) {p p' : Option Bool × World} (h : Same p p') :
    Same (doReboot u p) (doReboot u p') := by
  unfold doReboot
  rw [h.1]
  split
  · exact .ret (sim_emit _ h.2)
  · exact .ret h.2

theorem sim_waitForReboot (opts : InstallSource) (u : UnitEnv) (s : Sim w w') :
    Same (waitForReboot opts u w) (waitForReboot opts u w') :=
  sim_doReboot u (sim_rebootWait opts u s)

theorem sim_afterCheck (u : UnitEnv) (opts : InstallSource) (reboot : Option Bool) (s : Sim w w') :
    Same (afterCheck u opts reboot w) (afterCheck u opts reboot w') := by
  unfold afterCheck
  split
  · exact .ret s
  · exact .ret (sim_yield _ s)
  · obtain ⟨e, s1⟩ := sim_waitForReboot opts u (sim_yield (.state .waitingForReboot) s)
    simp only
    rw [e]
    split
    · exact .ret s1
    · exact .ret s1
    · exact .ret (sim_yield _ s1)

theorem sim_replyCtl (ctl : Option Nat) (r : Reply) (s : Sim w w') : Sim (replyCtl ctl r w) (replyCtl ctl r w') := by
  unfold replyCtl
  split
  · exact sim_emit _ s
  · exact s

theorem sim_replyDuring (during : List (Nat × InstallSource)) (s : Sim w w') :
    Sim (replyDuring during w) (replyDuring during w') :=
  sim_foldl (fun d _ _ => sim_emit (.reply d.1 .alreadyRunning)) during s

theorem sim_decideAndCheck (u : UnitEnv) (opts : InstallSource) (ctl : Option Nat) {w w' : World} (s : Sim w w') :
    (decideAndCheck u opts ctl w).1 = (decideAndCheck u opts ctl w').1 ∧
    Sim (decideAndCheck u opts ctl w).2 (decideAndCheck u opts ctl w').2 := by
  show Same _ _
  unfold decideAndCheck
  simp only
  have s0 := sim_emitOf (fun a c => .policyAllowed a c.sched c.st opts u.allow) s
  have refused := Same.ret (a := UnitResult.completed) (sim_replyCtl ctl .throttled s0)
  have allowed := fun params =>
    Same.bind (sim_startUpdateCheck params (sim_replyDuring u.during (sim_replyCtl ctl .started s0)))
      fun r _ _ => sim_afterCheck u (upgradeOpts u.during opts) r
  split
  · exact refused
  · exact refused
  · exact refused
  · exact allowed _
  · exact allowed _

theorem sim_outerWait (need : List Nat) (steps : List WaitStep) {w w' : World} (s : Sim w w') :
    (outerWait need steps w).1 = (outerWait need steps w').1 ∧
    Sim (outerWait need steps w).2 (outerWait need steps w').2 := by
  show Same _ _
  induction steps generalizing need w w' with
  | nil => exact .ret s
  | cons st rest ih =>
    cases st with
    | fire i => exact both_ite (fun _ => .ret (sim_emit _ s)) (fun _ => ih _ (sim_emit _ s))
    | ctl id src => exact .ret s

theorem sim_reportWaited (finish startMono : Int) (s : Sim w w') :
    Option.Rel Sim (reportWaited finish startMono w) (reportWaited finish startMono w') := by
  rw [reportWaited, reportWaited, s.clock]
  exact both_ite (fun _ => .none) fun _ => both_ite (fun _ => .none) fun _ =>
    both_ite (fun _ => .none) fun _ => .some (sim_metric _ _ s)

/-- The pending reboot-duration report: its storage removals and metric are invisible, and whether it
succeeded (the flag) does not depend on storage. -/
theorem sim_waitedStep (rs : RunState) {w w' : World} (s : Sim w w') :
    (waitedStep rs w).1 = (waitedStep rs w').1 ∧ Sim (waitedStep rs w).2 (waitedStep rs w').2 := by
  show Same _ _
  unfold waitedStep
  split
  · split
    · rename_i fin _
      have h := sim_reportWaited fin rs.startMono s
      generalize reportWaited fin rs.startMono w = r, reportWaited fin rs.startMono w' = r' at h ⊢
      cases h with
      | none => exact .ret s
      | some sx =>
        exact .ret (sx.inv (((inv_storeOp_ _ _).trans (inv_storeOp_ _ _)).trans (inv_storeOp_ _ _))
          (((inv_storeOp_ _ _).trans (inv_storeOp_ _ _)).trans (inv_storeOp_ _ _)))
    · exact .ret s
  · exact .ret s

end Omaha.SM
