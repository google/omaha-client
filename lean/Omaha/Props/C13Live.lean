/-
C13, liveness half: under a strict wake-only executor (the consumer polls only when its waker was
woken) and an environment in which every external event the task waits for eventually fires, the
generator stream runs to its end: every yielded item is delivered, then the completion, then the
stream terminates — no lost wake-up can stall it.

The proof is a variant argument: `nu` strictly decreases with every turn such an executor takes
(`fairTurn_decreases`).
-/
import Omaha.Props.C13

namespace Omaha.Gen

def opW : Op → Nat
  | .yield _ => 4
  | .yieldAll xs => 4 + 2 * xs.length
  | .selfWake => 2
  | .extWait _ => 2
  | .dropHandle => 1
  | .ret _ => 1

def W : List Op → Nat
  | [] => 0
  | op :: ops => opW op + W ops

def phi : Task → Nat
  | .run ops => 2 + W ops
  | .afterWake ops => 2 + W ops
  | .waiting _ ops => 2 + W ops
  | .sending xs ops => 2 + 2 * xs.length + W ops
  | .done => 0

def resFlag (s : St) : Nat := if s.res.isSome then 1 else 0
def termFlag (s : St) : Nat := if s.recvTerminated then 0 else 1

/-- Work left: in the task, in the channel, the undelivered completion, the unobserved closure. -/
def mu (s : St) : Nat := phi s.task + s.queue.length + resFlag s + termFlag s

def blockedOn (s : St) : Option Nat :=
  match s.task with
  | .waiting k _ => if s.fired.contains k then none else some k
  | _ => none

def nu (s : St) : Nat := 2 * mu s + (if (blockedOn s).isSome then 1 else 0)

theorem runOps_term (ops : List Op) (s : St) : (runOps ops s).recvTerminated = s.recvTerminated := by
  fun_induction runOps ops s with
  | case1 | case2 => rw [finish, closeSender_eq]                                               -- the task ends
  | case3 _ _ ih => rw [ih, closeSender_eq]                                                    -- `dropHandle`
  | case5 | case7 | case10 | case12 => assumption                                               -- skipped
  | _ => rfl                                                                                   -- the task suspends

theorem runOps_mu (ops : List Op) (s : St) :
    phi (runOps ops s).task + (runOps ops s).queue.length + resFlag (runOps ops s) <
      phi (.run ops) + s.queue.length + resFlag s := by
  fun_induction runOps ops s with
  | case3 ops s ih =>                                                                          -- `dropHandle`
    exact Nat.lt_of_lt_of_le ih (by simp [phi, W, resFlag])
  | case5 _ _ _ _ ih | case7 _ _ _ _ ih | case10 _ _ _ _ ih | case12 _ _ _ _ ih =>             -- skipped
    exact Nat.lt_of_lt_of_le ih (by simp [phi, W])
  | _ => simp +zetaDelta +arith [W, opW, phi, resFlag, finish, push]                           -- the task suspends or ends

theorem pollTask_term (s : St) : (pollTask s).recvTerminated = s.recvTerminated := by
  fun_cases pollTask s <;> first | rfl | exact runOps_term _ _

theorem pollTask_progress (s : St) :
    (phi (pollTask s).task + (pollTask s).queue.length + resFlag (pollTask s) < phi s.task + s.queue.length + resFlag s) ∨
    ((pollTask s).task = s.task ∧ (pollTask s).queue = s.queue ∧ (pollTask s).res = s.res ∧
      (pollTask s).fired = s.fired ∧ (pollTask s).woken = s.woken ∧ (pollTask s).parked = s.parked ∧
      (s.task = .done ∨ (∃ k ops, s.task = .waiting k ops ∧ s.fired.contains k = false) ∨
       (∃ xs ops, s.task = .sending xs ops ∧ s.parked = true))) := by
  fun_cases pollTask s with
  | case1 ht => exact .inr ⟨rfl, rfl, rfl, rfl, rfl, rfl, .inl ht⟩
  | case5 k ops ht hk => exact .inr ⟨rfl, rfl, rfl, rfl, rfl, rfl, .inr (.inl ⟨k, ops, ht, by simpa using hk⟩)⟩
  | case6 xs ops ht hp => exact .inr ⟨rfl, rfl, rfl, rfl, rfl, rfl, .inr (.inr ⟨xs, ops, ht, hp⟩)⟩
  | case2 ops ht | case3 ops ht | case7 ops _ ht => exact .inl (by rw [ht]; exact runOps_mu ops s)
  | case4 k ops ht => exact .inl (by rw [ht]; exact runOps_mu ops _)
  | case8 ops _ x rest src ht => exact .inl (by simp +arith [src, ht, phi, resFlag, push])

theorem recv_mu (td : Bool) (s : St) :
    (recv td s).2.task = s.task ∧ (recv td s).2.fired = s.fired ∧ mu (recv td s).2 ≤ mu s ∧
    (mu (recv td s).2 = mu s →
      ((recv td s).1 = .pending ∧ (recv td s).2.woken = s.woken ∧
        ((s.queue = [] ∧ s.senderAlive = true ∧ s.recvTerminated = false) ∨ (s.recvTerminated = true ∧ td = false))) ∨
      ((recv td s).1 = .none ∧ (recv td s).2 = s ∧ s.recvTerminated = true ∧ td = true ∧ s.res = none)) := by
  have hr := recv_case td s
  generalize recv td s = p at hr ⊢
  cases hr with
  | item x rest hrt hq => simp [mu, resFlag, termFlag, hq]
  | wait hrt hq ha => exact ⟨rfl, rfl, Nat.le_refl _, fun _ => .inl ⟨rfl, rfl, .inl ⟨hq, ha, hrt⟩⟩⟩
  | busy hcl htd =>
    refine ⟨rfl, rfl, ?_, ?_⟩ <;> simp [mu, resFlag, termFlag, htd]
    exact .inr
  | complete r hcl htd hres => simp +arith [mu, resFlag, termFlag, hres]
  | over hcl htd hres =>
    refine ⟨rfl, rfl, ?_, ?_⟩ <;> simp [mu, resFlag, termFlag, htd, hres]
    exact fun hrt => ⟨by cases s; simp_all, hrt⟩

theorem mu_woken (s : St) (b : Bool) : mu { s with woken := b } = mu s := rfl

theorem blockedOn_eq {s s' : St} (ht : s'.task = s.task) (hf : s'.fired = s.fired) : blockedOn s' = blockedOn s := by
  unfold blockedOn; rw [ht, hf]

/-- **progress.** One `poll_next` either removes work, or changes nothing because the task waits for
an external event that has not fired (the poll returns Pending with the waker not woken), or the
stream had already terminated. -/
theorem pollNext_progress {prog : List Op} {d : List Nat} {c : Bool} {s : St} (h : GInv prog d c s) :
    mu (pollNext s).2 < mu s ∨
    (mu (pollNext s).2 = mu s ∧ (pollNext s).2.task = s.task ∧ (pollNext s).2.fired = s.fired ∧
      (((pollNext s).1 = .pending ∧ (pollNext s).2.woken = false ∧ (blockedOn s).isSome = true) ∨
       ((pollNext s).1 = .none ∧ isTerminated (pollNext s).2 = true))) := by
  have ht := pollTask_term { s with woken := false }
  have hp := pollTask_progress { s with woken := false }
  have hu := unwoken_pending_is_external_wait h
  rw [pollNext_eq] at hu ⊢
  generalize pollTask { s with woken := false } = s2 at *
  obtain ⟨r1, r2, r3, r4⟩ := recv_mu (taskDone s2) s2
  -- `mu` is the sum `pollTask_progress` speaks of, plus `termFlag`
  have hterm : termFlag s2 = termFlag s := by unfold termFlag; rw [ht]
  rcases hp with hlt | ⟨e1, e2, e3, e4, e5, -⟩
  · exact .inl (Nat.lt_of_le_of_lt r3 (Nat.add_lt_add_of_lt_of_le hlt (Nat.le_of_eq hterm)))
  · have hmu : mu s2 = mu s := by unfold mu resFlag; rw [hterm, e1, e2, e3]
    rcases Nat.lt_or_eq_of_le r3 with hlt | heq
    · exact .inl (Nat.lt_of_lt_of_eq hlt hmu)
    · refine .inr ⟨heq.trans hmu, r1.trans e1, r2.trans e4, ?_⟩
      rcases r4 heq with ⟨hr, hw, -⟩ | ⟨hr, hsame, hrt, htd, hres⟩
      · -- Pending and not woken: the task is blocked, and the poll left task and events as they were
        obtain ⟨k, ops, hk, hf, -⟩ := hu hr (hw.trans e5)
        refine .inl ⟨hr, hw.trans e5, ?_⟩
        rw [← blockedOn_eq (s := s) (r1.trans e1) (r2.trans e4)]
        simpa [blockedOn, hk] using hf
      · exact .inr ⟨hr, by rw [hsame]; simp [isTerminated, htd, hrt, hres]⟩

/-- One turn: the consumer polls (it does so only when it has been woken, or at the start); if that
leaves the stream Pending with the waker *not* woken, nothing would ever poll again — unless the
external event the task registered its waker with fires, which is what a fair environment does. -/
def fairTurn (s : St) : PollResult × St :=
  if (pollNext s).1 = .pending ∧ (pollNext s).2.woken = false then
    match (pollNext s).2.extRegistered with
    | some k => ((pollNext s).1, fire k { (pollNext s).2 with woken := false })
    | none => pollNext s
  else pollNext s

def fairRun : Nat → St → List PollResult × St
  | 0, s => ([], s)
  | n + 1, s =>
    if isTerminated s then ([], s)
    else ((fairTurn s).1 :: (fairRun n (fairTurn s).2).1, (fairRun n (fairTurn s).2).2)

theorem mu_fire (k : Nat) (s : St) : mu (fire k s) = mu s := rfl

theorem fairTurn_eq (s : St) :
    fairTurn s = pollNext s ∨ ∃ k, fairTurn s = ((pollNext s).1, fire k { (pollNext s).2 with woken := false }) := by
  fun_cases fairTurn s with
  | case1 _ k => exact .inr ⟨k, rfl⟩
  | case2 | case3 => exact .inl rfl

theorem fairTurn_inv {prog : List Op} {d : List Nat} {c : Bool} {s : St} (h : GInv prog d c s) :
    resultOk prog d c (fairTurn s).1 ∧
    GInv prog (after d c (fairTurn s).1).1 (after d c (fairTurn s).1).2 (fairTurn s).2 := by
  obtain ⟨h1, h2⟩ := pollNext_inv h
  rcases fairTurn_eq s with e | ⟨k, e⟩ <;> rw [e]
  · exact ⟨h1, h2⟩
  · exact ⟨h1, fire_inv k h2⟩

theorem nu_bounds (x : St) : 2 * mu x ≤ nu x ∧ nu x ≤ 2 * mu x + 1 := by
  unfold nu
  split
  · exact ⟨Nat.le_succ _, Nat.le_refl _⟩
  · exact ⟨Nat.le_refl _, Nat.le_succ _⟩

theorem nu_fire_blocked {x : St} {k : Nat} {ops : List Op} (ht : x.task = .waiting k ops) :
    nu (fire k { x with woken := false }) = 2 * mu x := by
  simp [nu, blockedOn, fire, ht, mu, resFlag, termFlag]

/-- A lost wake-up would be a turn after which nothing changes and nobody is woken. -/
theorem fairTurn_decreases {prog : List Op} {d : List Nat} {c : Bool} {s : St} (h : GInv prog d c s) :
    nu (fairTurn s).2 < nu s ∨ isTerminated (fairTurn s).2 = true := by
  have hprog := pollNext_progress h
  have := nu_bounds s
  unfold fairTurn
  split
  · -- Pending and not woken: the task waits for an event, which now fires
    rename_i hc
    obtain ⟨k, ops, ht, hk, hreg⟩ := unwoken_pending_is_external_wait h hc.1 hc.2
    split
    · rename_i k' hk'
      obtain rfl : k = k' := by simpa [hreg] using hk'
      rw [nu_fire_blocked ht]
      rcases hprog with hlt | ⟨heq, _, _, ⟨_, _, hb⟩ | ⟨hn, _⟩⟩
      · exact .inl (by omega)
      · have : nu s = 2 * mu s + 1 := by simp [nu, hb]
        exact .inl (by omega)
      · rw [hc.1] at hn; cases hn
    · rename_i hnone
      rw [hreg] at hnone; cases hnone
  · rename_i hc
    rcases hprog with hlt | ⟨heq, _, _, ⟨hp, hw, _⟩ | ⟨_, hterm⟩⟩
    · have := nu_bounds (pollNext s).2
      exact .inl (by omega)
    · exact absurd ⟨hp, hw⟩ hc
    · exact .inr hterm

theorem fairRun_terminated (n : Nat) {s : St} (h : isTerminated s = true) : fairRun n s = ([], s) := by
  cases n <;> simp [fairRun, h]

theorem fairRun_terminates {prog : List Op} (n : Nat) {d : List Nat} {c : Bool} {s : St} (h : GInv prog d c s) (hn : nu s < n) :
    isTerminated (fairRun n s).2 = true := by
  induction n generalizing d c s with
  | zero => exact absurd hn (Nat.not_lt_zero _)
  | succ n ih =>
    unfold fairRun
    split
    · assumption
    · rcases fairTurn_decreases h with hlt | hterm
      · exact ih (fairTurn_inv h).2 (Nat.lt_of_lt_of_le hlt (Nat.le_of_lt_succ hn))
      · rwa [fairRun_terminated n hterm]

theorem fairRun_inv {prog : List Op} (n : Nat) {d : List Nat} {c : Bool} {s : St} (h : GInv prog d c s) :
    GInv prog (d ++ itemsOf (fairRun n s).1) (c || (fairRun n s).1.any isComplete) (fairRun n s).2 ∧
    AllOk prog d c (fairRun n s).1 := by
  induction n generalizing d c s with
  | zero => simpa [fairRun, AllOk] using h
  | succ n ih =>
    unfold fairRun
    split
    · simpa [AllOk] using h
    · obtain ⟨h1, h2⟩ := fairTurn_inv h
      obtain ⟨i1, i2⟩ := ih h2
      obtain ⟨a1, a2⟩ := after_append d c (fairTurn s).1 (fairRun n (fairTurn s).2).1
      exact ⟨a1 ▸ a2 ▸ i1, h1, i2⟩

theorem allOk_complete_ret {prog : List Op} {rs : List PollResult} {d : List Nat} {c : Bool} (h : AllOk prog d c rs)
    {r : Nat} (hr : .complete r ∈ rs) : r = retOf prog := by
  induction rs generalizing d c with
  | nil => cases hr
  | cons x rest ih =>
    rcases List.mem_cons.1 hr with rfl | hr
    · exact h.1.2.2
    · exact ih h.2 hr

/-- **strict_executor_live.** For every generator program: a consumer that polls only when woken
(a strict wake-only executor), in an environment where the external events the task waits for do
fire, sees the stream through to its end within `nu (init prog)` turns — every yielded item, in
order, then `Complete` with the program's return value, then termination. No schedule of the
task's own wake-ups can stall it: there is no lost wake-up. -/
theorem strict_executor_live (prog : List Op) :
    let run := fairRun (nu (init prog) + 1) (init prog)
    isTerminated run.2 = true ∧ itemsOf run.1 = yieldsOf prog ∧ run.1.any isComplete = true ∧
    (∀ r, PollResult.complete r ∈ run.1 → r = retOf prog) ∧ AllOk prog [] false run.1 := by
  intro run
  have hterm : isTerminated run.2 = true := fairRun_terminates _ (init_inv prog) (Nat.lt_succ_self _)
  obtain ⟨hinv, hall⟩ : GInv prog (itemsOf run.1) (run.1.any isComplete) run.2 ∧ AllOk prog [] false run.1 := by
    simpa using fairRun_inv (nu (init prog) + 1) (init_inv prog)
  obtain ⟨⟨hd, _⟩, hres⟩ : (run.2.task = .done ∧ _) ∧ run.2.res = none := by
    simpa [isTerminated, taskDone] using hterm
  refine ⟨hterm, ?_, ?_, fun r => allOk_complete_ret hall, hall⟩
  · simpa [(hinv.done_closed hd), todo] using hinv.conserve
  · cases hany : run.1.any isComplete with
    | true => rfl
    | false => simpa [hres] using hinv.not_completed hany hd

example : (fairRun 40 (init [.yield 1, .extWait 7, .selfWake, .yieldAll [2, 3], .ret 9])).1 =
    [.item 1, .pending, .pending, .item 2, .item 3, .complete 9] := by decide +kernel

end Omaha.Gen
