/-
C08 — Protocol bookkeeping is exact, durable and crash-consistent.
-/
import Omaha.Lemmas.Store
import Omaha.Lemmas.Dec
import Omaha.Props.C19

namespace Omaha.SM

open Omaha

theorem persistData_frame (w : World) :
    (persistData w).ctx = w.ctx ∧ (persistData w).apps = w.apps ∧ (persistData w).clock = w.clock :=
  ⟨(inv_persistData w).ctx.symm, (inv_persistData w).apps.symm, (inv_persistData w).clock.symm⟩

theorem closeCheck_frame (r : Except CheckErr (List AppResp)) (w : World) :
    (closeCheck r w).ctx = w.ctx ∧ (closeCheck r w).apps = w.apps ∧ (closeCheck r w).clock = w.clock := by
  -- by rewriting: comparing the world under the three events with `w` by `rfl` tries structure eta at
  -- every level and field before it unfolds
  simp only [closeCheck, persistData_frame, yieldEv, emit, and_self]

def nowPCT (w : World) : PCT := .complex ⟨w.clock.wall, w.clock.mono⟩

theorem prepareOk_spec (ok : CheckOk) (w : World) :
    (prepareOk ok w).ctx =
      { sched := { w.ctx.sched with lastUpdate := some (nowPCT w) }, st := { w.ctx.st with failures := 0 } } ∧
    (prepareOk ok w).apps = updateFromOmaha w.apps ok.responses := by
  unfold prepareOk
  split
  · exact ⟨(inv_reportAttemptsInstall _ _).ctx.symm, (inv_reportAttemptsInstall _ _).apps.symm⟩
  · exact ⟨rfl, rfl⟩

theorem prepareErr_spec (e : CheckErr) (w : World) :
    (prepareErr e w).ctx =
      { sched := if talkedToOmaha e then { w.ctx.sched with lastUpdate := some (nowPCT w) } else w.ctx.sched,
        st := { w.ctx.st with failures := satAdd32 w.ctx.st.failures } } ∧
    (prepareErr e w).apps = w.apps := by
  unfold prepareErr
  cases talkedToOmaha e <;> exact ⟨rfl, rfl⟩

theorem finishCheckOk_ctx (ok : CheckOk) (w : World) :
    (finishCheckOk ok w).ctx =
      { sched := { w.ctx.sched with lastUpdate := some (nowPCT w) }, st := { w.ctx.st with failures := 0 } } :=
  (closeCheck_frame _ _).1.trans (prepareOk_spec ok w).1

theorem finishCheckErr_ctx (e : CheckErr) (w : World) :
    (finishCheckErr e w).ctx =
      { sched := if talkedToOmaha e then { w.ctx.sched with lastUpdate := some (nowPCT w) } else w.ctx.sched,
        st := { w.ctx.st with failures := satAdd32 w.ctx.st.failures } } :=
  (closeCheck_frame _ _).1.trans (prepareErr_spec e w).1

theorem pingFailed_ctx (w : World) :
    (pingFailed w).ctx = { w.ctx with st := { w.ctx.st with failures := satAdd32 w.ctx.st.failures } } :=
  (persistData_frame _).1

theorem pingSucceeded_ctx (r : Resp.Response) (w : World) :
    (pingSucceeded r w).ctx =
      { sched := { w.ctx.sched with lastUpdate := some (nowPCT w) }, st := { w.ctx.st with failures := 0 } } :=
  (persistData_frame _).1

theorem finishCheckOk_failures (ok : CheckOk) (w : World) : (finishCheckOk ok w).ctx.st.failures = 0 := by
  rw [finishCheckOk_ctx]

theorem finishCheckErr_failures (e : CheckErr) (w : World) :
    (finishCheckErr e w).ctx.st.failures = satAdd32 w.ctx.st.failures := by
  rw [finishCheckErr_ctx]

theorem pingFailed_failures (w : World) : (pingFailed w).ctx.st.failures = satAdd32 w.ctx.st.failures := by
  rw [pingFailed_ctx]

theorem pingSucceeded_failures (r : Resp.Response) (w : World) : (pingSucceeded r w).ctx.st.failures = 0 := by
  rw [pingSucceeded_ctx]

inductive Outcome where
  | checkOk | checkFailed (contact : Bool) | pingOk | pingFailed
  deriving DecidableEq, Repr

def Outcome.success : Outcome → Bool
  | .checkOk | .pingOk => true
  | _ => false

def failuresAfter : Nat → List Outcome → Nat
  | n, [] => n
  | n, o :: rest => failuresAfter (if o.success then 0 else satAdd32 n) rest

def trailingFailures : List Outcome → Nat
  | [] => 0
  | o :: rest => if rest.all (fun x => !x.success) then (if o.success then 0 else 1) + trailingFailures rest else trailingFailures rest

theorem satAdd32_eq (n : Nat) (h : n < Dec.u32Max) : satAdd32 n = n + 1 :=
  if_neg (Nat.not_lt.2 (Nat.succ_le_of_lt h))

theorem failuresAfter_all_failed (n : Nat) (os : List Outcome) (h : os.all (fun x => !x.success) = true)
    (hb : n + os.length ≤ Dec.u32Max) : failuresAfter n os = n + os.length := by
  induction os generalizing n with
  | nil => rfl
  | cons o rest ih =>
    simp only [List.all_cons, Bool.and_eq_true, Bool.not_eq_true'] at h
    simp only [failuresAfter, h.1, Bool.false_eq_true, if_false, List.length_cons] at hb ⊢
    rw [satAdd32_eq n (by omega), ih (n + 1) h.2 (by omega)]
    omega

theorem trailingFailures_all_failed (os : List Outcome) (h : os.all (fun x => !x.success) = true) :
    trailingFailures os = os.length := by
  induction os with
  | nil => rfl
  | cons o rest ih =>
    simp only [List.all_cons, Bool.and_eq_true, Bool.not_eq_true'] at h
    simp only [trailingFailures, h.1, h.2, ih h.2, if_true, Bool.false_eq_true, if_false, List.length_cons]
    exact Nat.add_comm 1 _

/-- **failures_count.** After any history of checks and pings the count equals the number of
failed ones since the last success (as long as that number fits in u32; it saturates beyond). -/
theorem failures_count (os : List Outcome) (n : Nat) (hs : ∃ o ∈ os, o.success = true)
    (hb : os.length ≤ Dec.u32Max) : failuresAfter n os = trailingFailures os := by
  induction os generalizing n with
  | nil => obtain ⟨o, ho, _⟩ := hs; cases ho
  | cons o rest ih =>
    have hb : rest.length ≤ Dec.u32Max := Nat.le_of_succ_le hb
    unfold failuresAfter trailingFailures
    by_cases hall : rest.all (fun x => !x.success) = true
    · -- then `o` itself is the last success, and both sides count what follows it
      have ho : o.success = true := by
        obtain ⟨x, hx, hxs⟩ := hs
        rcases List.mem_cons.1 hx with rfl | hx
        · exact hxs
        · simpa [hxs] using List.all_eq_true.1 hall x hx
      rw [if_pos ho, if_pos hall, if_pos ho, failuresAfter_all_failed 0 rest hall (by rwa [Nat.zero_add]),
        trailingFailures_all_failed rest hall]
    · rw [if_neg hall]
      obtain ⟨x, hx, hxs⟩ := List.all_eq_false.1 (Bool.not_eq_true _ ▸ hall)
      exact ih _ ⟨x, hx, by simpa using hxs⟩ hb

theorem finishCheckOk_lastUpdate (ok : CheckOk) (w : World) :
    (finishCheckOk ok w).ctx.sched.lastUpdate = some (nowPCT w) := by
  rw [finishCheckOk_ctx]

/-- **last_contact.** A failed check moves the last-contact time exactly when the server answered
(unparseable body, unusable install plan); transport, HTTP-status, construction and
authentication failures leave it untouched. -/
theorem finishCheckErr_lastUpdate (e : CheckErr) (w : World) :
    (finishCheckErr e w).ctx.sched.lastUpdate =
      if talkedToOmaha e then some (nowPCT w) else w.ctx.sched.lastUpdate := by
  rw [finishCheckErr_ctx]
  cases talkedToOmaha e <;> rfl

theorem talkedToOmaha_iff (e : CheckErr) : talkedToOmaha e = true ↔ e = .responseParser ∨ e = .installPlan := by
  cases e <;> simp [talkedToOmaha]

theorem pingFailed_lastUpdate (w : World) : (pingFailed w).ctx.sched.lastUpdate = w.ctx.sched.lastUpdate := by
  rw [pingFailed_ctx]

theorem pingSucceeded_lastUpdate (r : Resp.Response) (w : World) :
    (pingSucceeded r w).ctx.sched.lastUpdate = some (nowPCT w) := by
  rw [pingSucceeded_ctx]

theorem persistData_trace (w : World) :
    ∃ ctxWrites appWrites o,
      (persistData w).trace = .storage .commit o :: (appWrites ++ ctxWrites ++ w.trace) ∧
      ctxWrites.length = 3 ∧ appWrites.length = w.apps.length ∧
      (∀ a ∈ ctxWrites ++ appWrites, isStorage a) := by
  obtain ⟨dc, ec, lc, sc⟩ := storeOps_log (ctxOps w.ctx) w
  obtain ⟨da, ea, la, sa⟩ := storeOps_log (w.apps.map appWrite) (storeOps (ctxOps w.ctx) w)
  refine ⟨dc, da, (storeOp .commit (persistApps w.apps (persistCtx w))).1, ?_, lc, la.trans (List.length_map _),
    fun a ha => (List.mem_append.1 ha).elim (sc a) (sa a)⟩
  unfold persistData storeOp_
  rw [storeOp_trace, persistApps_eq, persistCtx_eq, ea, ec, List.append_assoc]

/-- **commit_at_end.** The last actions of every check are, in order: ScheduleChange,
ProtocolStateChange, UpdateCheckResult, the three context writes, one write per app, commit. -/
theorem closeCheck_trace (r : Except CheckErr (List AppResp)) (w : World) :
    ∃ ctxWrites appWrites o,
      (closeCheck r w).trace =
        .storage .commit o :: (appWrites ++ ctxWrites ++
          [.event (.result r), .event (.protocol w.ctx.st), .event (.schedule w.ctx.sched)] ++ w.trace) ∧
      ctxWrites.length = 3 ∧ appWrites.length = w.apps.length ∧
      (∀ a ∈ ctxWrites ++ appWrites, isStorage a) := by
  simpa only [closeCheck, yieldEv, emit, List.append_assoc, List.cons_append, List.nil_append] using
    persistData_trace (yieldEv (.result r) (yieldEv (.protocol w.ctx.st) (yieldEv (.schedule w.ctx.sched) w)))

/-- The context as a restarted state machine will see it. -/
def durableView (c : Ctx) : Option Int × Option Nat × Nat :=
  (((c.sched.lastUpdate.bind pctWall).bind Time.toMicros).map Time.fromMicros, c.st.poll, c.st.failures)

theorem ctxKeys_distinct :
    kLastUpdateTime ≠ kPoll ∧ kLastUpdateTime ≠ kFailedChecks ∧ kPoll ≠ kFailedChecks := by
  rw [kLastUpdateTime, kPoll, kFailedChecks, Bytes.ofString_ofList, Bytes.ofString_ofList, Bytes.ofString_ofList]
  decide

theorem loadPoll_written (p : Option Nat) (h : ∀ x, p = some x → x % 1000 = 0 ∧ x / 1000 ≤ 18446744073709551615) :
    loadPoll (p.map fun ns => ((ns / 1000 : Nat) : Int)) = p := by
  cases p with
  | none => rfl
  | some x =>
    obtain ⟨hm, hle⟩ := h x rfl
    rw [Option.map_some, loadPoll, if_pos ⟨Int.natCast_nonneg _, Int.ofNat_le.2 hle⟩, Int.toNat_natCast,
      Nat.div_mul_cancel (Nat.dvd_of_mod_eq_zero hm)]

theorem loadFails_written (n : Nat) (h : n ≤ Dec.u32Max) :
    loadFails (if n = 0 then none else some (n : Int)) = n := by
  have h1 : (n : Int) ≤ u32Max := Int.ofNat_le.2 h
  split
  · simp only [loadFails, *]
  · simp only [loadFails, Int.natCast_nonneg, h1, and_self, if_true, Int.toNat_natCast]

/-- `Context::load` after `Context::persist`: the durable view, and nothing else (for the values the
protocol can produce: poll interval a whole number of microseconds below 2⁶⁴ µs, failure count in u32). -/
theorem loadCtx_ctxOps (c : Ctx) (s : Store)
    (hpoll : ∀ p, c.st.poll = some p → p % 1000 = 0 ∧ p / 1000 ≤ 18446744073709551615)
    (hfail : c.st.failures ≤ Dec.u32Max) :
    loadCtx (runOps (ctxOps c) s) =
      { sched := { lastUpdate := (durableView c).1.map .wall, lastCheck := (durableView c).1.map .wall, next := none },
        st := { poll := c.st.poll, failures := c.st.failures, proxied := 0 } } := by
  obtain ⟨k12, k13, k23⟩ := ctxKeys_distinct
  unfold loadCtx durableView Store.getTime
  simp only [ctxOps, runOps, List.foldl, optOp_getInt, if_true, if_neg k12.symm, if_neg k13.symm, if_neg k23.symm,
    loadPoll_written _ hpoll, loadFails_written _ hfail]

theorem persist_commit_crash_load (w : World) (h : NoStoreFail w)
    (hpoll : ∀ p, w.ctx.st.poll = some p → p % 1000 = 0 ∧ p / 1000 ≤ 18446744073709551615)
    (hfail : w.ctx.st.failures ≤ Dec.u32Max) :
    let st := (storeOp_ .commit (persistCtx w)).store.crash
    ((loadCtx st).sched.lastUpdate.bind pctWall, (loadCtx st).st.poll, (loadCtx st).st.failures)
      = durableView w.ctx := by
  intro st
  -- commit then crash is transparent to a reader: `st` reads as the store with the three writes applied
  have hst : loadCtx st = loadCtx (runOps (ctxOps w.ctx) w.store) := by
    refine loadCtx_of_get_eq _ _ fun k => ?_
    show (storeOps [.commit] (persistCtx w)).store.crash.get k = _
    rw [persistCtx_eq, ← storeOps_append, (storeOps_ok _ w h).2, runOps_append]
    exact crash_commit_get _ k
  rw [hst, loadCtx_ctxOps _ _ hpoll hfail]
  unfold durableView
  cases (w.ctx.sched.lastUpdate.bind pctWall).bind Time.toMicros <;> rfl

/-- The durable last-contact time is the context's wall-clock value at microsecond precision
(C19's `truncate_agrees`). -/
theorem durable_time_is_truncation (t q : Int) (h : Time.toMicros t = some q) :
    Time.fromMicros q = Time.truncateSubMicro t := Time.truncate_agrees t q h

theorem failed_op_changes_nothing (op : StoreOp) (w : World) (h : (storeOp op w).1 = false) :
    (storeOp op w).2.store = w.store := by
  rw [storeOp_eq] at h ⊢
  simp only [Bool.not_eq_false'] at h
  simp only [emit, h, if_true]

example : failuresAfter 7 [.checkFailed false, .checkOk, .pingFailed, .checkFailed true] = 2 := by decide
example : trailingFailures [.checkFailed false, .checkOk, .pingFailed, .checkFailed true] = 2 := by decide
example : failuresAfter 0 [.pingFailed, .pingOk] = 0 := by decide

end Omaha.SM
