/-
C03 — Every CUP request is freshly and faithfully decorated (URL part).

`decorate` is the model of `decorate_request`'s URL handling.  This file says what the decorated
text is made of and that exactly one parameter is added, defines what a successful parse
guarantees about the parts (`WF`, `parse_wf`), and proves the scheme-independent half of the
re-parse theorem: `authority ++ path ++ ?query` parses back to its components
(`parsePQ_print`, `parseAfterScheme_print`).  The scheme scan and the re-parse theorem itself are
in `Props/C03Other`.  The one-draw-per-request part of the property (no nonce reuse over
histories) is a property of the state machine model and is stated in `Props/Draws`; uniqueness of the
draws themselves is a property of the RNG and is observed, not proved.
-/
import Omaha.Uri
import Omaha.Lemmas.Dec

namespace Omaha.Uri

open Omaha

theorem pathOrSlash_idem (p : Bytes) : pathOrSlash (pathOrSlash p) = pathOrSlash p := by
  fun_cases pathOrSlash p with
  | case1 => rfl
  | case2 h => exact if_neg h

/-- **decorate_text.** The decorated URL is: scheme (http/https lower-cased), `://`, authority,
path ("" read as "/"), `?`, the existing query followed by `&` if there is one, and
`cup2key=<key id>:<nonce hex>`; a fragment is dropped. -/
theorem decorate_text (url : Bytes) (kid : Nat) (nonce out : Bytes) :
    decorate url kid nonce = .ok out ↔
      ∃ u, parse url = .ok u ∧
        out = schemePrefix u.scheme ++ u.authority ++ pathOrSlash u.path
              ++ 63 :: queryWith u.query (cup2keyName ++ 61 :: Cup.cup2key kid nonce) := by
  unfold decorate
  cases h : parse url with
  | ok u =>
    simp only [R.ok.injEq, exists_eq_left']
    simp [print, appendQuery, querySuffix, pathOrSlash_idem, eq_comm]
  | err => simp
  | outside => simp

theorem decorate_text_of_parse {url out : Bytes} {kid : Nat} {nonce : Bytes} {u : Parts} (hp : parse url = .ok u)
    (hd : decorate url kid nonce = .ok out) :
    out = schemePrefix u.scheme ++ u.authority ++ pathOrSlash u.path
          ++ 63 :: queryWith u.query (cup2keyName ++ 61 :: Cup.cup2key kid nonce) := by
  obtain ⟨u', hu', hout⟩ := (decorate_text url kid nonce out).1 hd
  rw [hp] at hu'
  cases hu'
  exact hout

/-- **decorate_preserves** (parts). Appending the parameter leaves scheme and authority intact,
reads an empty path as "/", and extends the query by exactly `key=value`. -/
theorem appendQuery_parts (u : Parts) (k v : Bytes) :
    (appendQuery u k v).scheme = u.scheme ∧ (appendQuery u k v).authority = u.authority ∧
    (appendQuery u k v).path = pathOrSlash u.path ∧
    (appendQuery u k v).query = some (queryWith u.query (k ++ 61 :: v)) := by
  simp [appendQuery]

/-- Exactly one parameter is added: splitting the new query at `&` gives the old parameters
followed by the new one. -/
theorem one_parameter_added (q kv : Bytes) (h : (38 : UInt8) ∉ kv) :
    Bytes.splitOn 38 (q ++ 38 :: kv) = Bytes.splitOn 38 q ++ [kv] := by
  rw [Bytes.splitOn_append_cons, Bytes.splitOn_of_not_mem 38 kv h]

/-- The parameter value is `<key id decimal>:<64 hex digits>` for a 32-byte nonce, and contains
no `&`, `#` or `=`. -/
theorem cup2key_shape (kid : Nat) (nonce : Bytes) (h : nonce.length = 32) :
    Cup.cup2key kid nonce = Dec.render kid ++ 58 :: Hex.encode nonce ∧ (Hex.encode nonce).length = 64 := by
  refine ⟨rfl, ?_⟩
  rw [Hex.encode_length, h]

theorem param_chars (kid : Nat) (nonce : Bytes) :
    ∀ c ∈ cup2keyName ++ 61 :: Cup.cup2key kid nonce,
      queryChar c = true ∧ c ≠ 38 ∧ c ≠ 35 := by
  intro c hc
  have hn : (48 ≤ c.toNat ∧ c.toNat ≤ 58) ∨ c.toNat = 61 ∨ (97 ≤ c.toNat ∧ c.toNat ≤ 122) := by
    simp only [List.mem_append, List.mem_cons, Cup.cup2key] at hc
    rcases hc with hc | rfl | hc | rfl | hc
    · revert c; decide
    · decide
    · have := Dec.render_all_digits kid c hc
      exact .inl ⟨this.1, Nat.le_succ_of_le this.2⟩
    · decide
    · rcases Hex.encode_chars nonce c hc with h | h
      · exact .inl ⟨h.1, Nat.le_succ_of_le h.2⟩
      · exact .inr (.inr ⟨h.1, Nat.le_trans h.2 (by decide)⟩)
  refine ⟨?_, ?_, ?_⟩
  · simp only [queryChar, Bool.or_eq_true, Bool.and_eq_true, decide_eq_true_eq]
    rcases hn with h | h | h <;> omega
  · rintro rfl; revert hn; decide
  · rintro rfl; revert hn; decide

theorem drop_length_takeWhile {α} (p : α → Bool) (l : List α) :
    l.drop (l.takeWhile p).length = l.dropWhile p := by
  induction l with
  | nil => rfl
  | cons x xs ih => by_cases h : p x <;> simp [h, ih]

theorem pathChar_not_stop (b : UInt8) (h : pathChar b = true) : (b ≠ 63 && b ≠ 35) = true := by
  have : b ≠ 63 ∧ b ≠ 35 := ⟨by rintro rfl; revert h; decide, by rintro rfl; revert h; decide⟩
  simp [this]

theorem parsePQ_print (P : Bytes) (q : Option Bytes) (hP : P.all pathChar = true)
    (hq : ∀ Q, q = some Q → Q.all queryChar = true ∧ (35 : UInt8) ∉ Q) :
    parsePQ (P ++ querySuffix q) = some ⟨P, q⟩ := by
  have h1 : (P ++ querySuffix q).takeWhile (fun b => b ≠ 63 && b ≠ 35) = P := by
    rw [List.takeWhile_append_of_pos fun b hb => pathChar_not_stop b (List.all_eq_true.1 hP b hb)]
    -- nothing follows the path, or a `?`, where the scan stops
    cases q <;> exact List.append_nil P
  rw [parsePQ, h1, List.drop_left, if_pos hP]
  cases q with
  | none => rfl
  | some Q =>
    obtain ⟨hQ, h35⟩ := hq Q rfl
    have h2 : Q.takeWhile (fun b => b ≠ 35) = Q := by
      simpa using List.takeWhile_append_of_pos (p := fun b => b ≠ 35) (l₁ := Q) (l₂ := [])
        fun b hb => by simpa using fun h : b = 35 => h35 (h ▸ hb)
    simp only [querySuffix, parseQueryPart, h2, hQ, if_true]

theorem parseAfterScheme_print (sch : Scheme) (A t : Bytes) (q : Option Bytes)
    (hA : ∀ b ∈ A, isDelim b = false) (hok : authorityOk A = true) (hne : A ≠ [])
    (hP : (47 :: t : Bytes).all pathChar = true)
    (hq : ∀ Q, q = some Q → Q.all queryChar = true ∧ (35 : UInt8) ∉ Q) :
    parseAfterScheme sch (A ++ 47 :: (t ++ querySuffix q)) = .ok ⟨some sch, A, 47 :: t, q⟩ := by
  have htw : (A ++ 47 :: (t ++ querySuffix q)).takeWhile (fun b => !isDelim b) = A := by
    rw [List.takeWhile_append_of_pos fun b hb => by rw [hA b hb]; rfl]
    -- the scan stops at the `/`
    exact List.append_nil A
  unfold parseAfterScheme
  rw [htw, List.drop_left, ← List.cons_append, parsePQ_print _ q hP hq]
  simp [hok, hne]

/-- What a successful parse guarantees about the parts. -/
structure WF (u : Parts) : Prop where
  auth_nodelim : ∀ b ∈ u.authority, isDelim b = false
  auth_abs : u.scheme.isSome → authorityOk u.authority = true ∧ u.authority ≠ []
  origin : u.scheme = none → u.authority = [] ∧ u.path.head? = some 47
  path_chars : u.path.all pathChar = true
  path_start : u.path = [] ∨ u.path.head? = some 47
  query_ok : ∀ q, u.query = some q → q.all queryChar = true ∧ (35 : UInt8) ∉ q

theorem parseQueryPart_facts (r : Bytes) (q : Option Bytes) (h : parseQueryPart r = some q) :
    ∀ q', q = some q' → q'.all queryChar = true ∧ (35 : UInt8) ∉ q' := by
  revert h
  fun_cases parseQueryPart r with
  | case1 qq hqc =>
    rintro ⟨⟩ _ ⟨⟩
    exact ⟨hqc, fun hm => by simpa using List.all_eq_true.1 List.all_takeWhile 35 hm⟩
  | case2 => nofun
  | case3 => rintro ⟨⟩; nofun

/-- What `parsePQ` returns: the path is the text up to `?` or `#`, so it starts like the text. -/
theorem parsePQ_facts (src : Bytes) (pq : PQ) (h : parsePQ src = some pq) :
    pq.path.head? = src.head?.filter (fun b => b ≠ 63 && b ≠ 35) ∧ pq.path.all pathChar = true ∧
    ∀ q, pq.query = some q → q.all queryChar = true ∧ (35 : UInt8) ∉ q := by
  revert h
  fun_cases parsePQ src with
  | case1 hp q hq =>
    rintro ⟨⟩
    exact ⟨List.head?_takeWhile, hp, parseQueryPart_facts _ q hq⟩
  | case2 => nofun
  | case3 => nofun

theorem parseOrigin_wf (s : Bytes) (u : Parts) (hhead : s.head? = some 47) (h : parseOrigin s = .ok u) :
    WF u ∧ u.scheme = none := by
  unfold parseOrigin at h
  split at h
  · rename_i pq hpq
    cases h
    obtain ⟨hpath, hchars, hq⟩ := parsePQ_facts s pq hpq
    rw [hhead] at hpath
    exact ⟨⟨by simp, by simp, fun _ => ⟨rfl, hpath⟩, hchars, Or.inr hpath, hq⟩, rfl⟩
  · cases h

theorem parseAfterScheme_wf (sch : Scheme) (rest : Bytes) (u : Parts)
    (h : parseAfterScheme sch rest = .ok u) : WF u ∧ u.scheme = some sch := by
  unfold parseAfterScheme at h
  obtain ⟨hok, h⟩ := of_ite_eq h nofun
  obtain ⟨hne, h⟩ := of_ite_eq h nofun
  split at h
  · rename_i pq hpq
    cases h
    obtain ⟨hpath, hchars, hq⟩ := parsePQ_facts _ pq hpq
    refine ⟨⟨?_, fun _ => ⟨by simpa using hok, hne⟩, nofun, hchars, ?_, hq⟩, rfl⟩
    · intro b hb
      simpa using List.all_eq_true.1 List.all_takeWhile b hb
    · -- the path starts at the delimiter that ended the authority: `/` stays, `?` or `#` end it
      rw [drop_length_takeWhile] at hpath
      have hd := List.head?_dropWhile_not (fun b => !isDelim b) rest
      cases hD : (rest.dropWhile fun b => !isDelim b).head? with
      | none => rw [hD] at hpath; exact Or.inl (List.head?_eq_none_iff.1 hpath)
      | some b =>
        rw [hD] at hpath hd
        simp only [isDelim, Bool.not_eq_eq_eq_not, Bool.not_false, Bool.or_eq_true, decide_eq_true_eq] at hd
        rcases hd with (rfl | rfl) | rfl
        · exact Or.inr hpath
        · exact Or.inl (List.head?_eq_none_iff.1 hpath)
        · exact Or.inl (List.head?_eq_none_iff.1 hpath)
  · cases h

theorem parse_ok (s : Bytes) (u : Parts) (h : parse s = .ok u) :
    (s.head? = some 47 ∧ parseOrigin s = .ok u) ∨
      ∃ sch rest, splitScheme s = .ok (some sch, rest) ∧ parseAfterScheme sch rest = .ok u := by
  unfold parse at h
  obtain ⟨-, h⟩ := of_ite_eq h nofun
  obtain ⟨-, h⟩ := of_ite_eq h nofun
  obtain ⟨-, h⟩ := of_ite_eq h nofun
  by_cases h4 : s.head? = some 47
  · rw [if_pos h4] at h; exact Or.inl ⟨h4, h⟩
  · rw [if_neg h4, parseAbs] at h
    split at h
    · cases h
    · cases h
    · cases h
    · rename_i sch rest hsp; exact Or.inr ⟨sch, rest, hsp, h⟩

theorem parse_wf (s : Bytes) (u : Parts) (h : parse s = .ok u) : WF u := by
  rcases parse_ok s u h with ⟨hhead, h⟩ | ⟨sch, rest, -, h⟩
  · exact (parseOrigin_wf s u hhead h).1
  · exact (parseAfterScheme_wf sch rest u h).1

theorem WF.slash {u : Parts} (hu : WF u) :
    (pathOrSlash u.path).all pathChar = true ∧ ∃ t, pathOrSlash u.path = 47 :: t := by
  fun_cases pathOrSlash u.path with
  | case1 => exact ⟨by decide, [], rfl⟩
  | case2 hne => exact ⟨hu.path_chars, List.head?_eq_some_iff.1 ((hu.path_start).resolve_left hne)⟩

/-- The shape of `appendQuery u k v`. -/
theorem WF.repath {u : Parts} (hu : WF u) (q' : Option Bytes)
    (hq : ∀ q, q' = some q → q.all queryChar = true ∧ (35 : UInt8) ∉ q) :
    WF ⟨u.scheme, u.authority, pathOrSlash u.path, q'⟩ := by
  obtain ⟨hc, t, ht⟩ := hu.slash
  exact ⟨hu.auth_nodelim, hu.auth_abs, fun h => ⟨(hu.origin h).1, by simp [ht]⟩, hc,
    Or.inr (by simp [ht]), hq⟩

theorem queryWith_ok (q : Option Bytes) (kv : Bytes)
    (hq : ∀ Q, q = some Q → Q.all queryChar = true ∧ (35 : UInt8) ∉ Q)
    (hkvq : kv.all queryChar = true) (hkv35 : (35 : UInt8) ∉ kv) :
    (queryWith q kv).all queryChar = true ∧ (35 : UInt8) ∉ queryWith q kv := by
  cases q with
  | none => exact ⟨hkvq, hkv35⟩
  | some Q =>
    obtain ⟨h1, h2⟩ := hq Q rfl
    have h38 : queryChar 38 = true := by decide
    simp [queryWith, List.all_append, h1, hkvq, h38, h2, hkv35]

-- "http://a/p?x=1#f" with key 7 and nonce [0xAB]
example : (match decorate [104,116,116,112,58,47,47,97,47,112,63,120,61,49,35,102] 7 [0xAB] with
    | .ok out => out == [104,116,116,112,58,47,47,97,47,112,63,120,61,49,38,99,117,112,50,107,101,121,61,55,58,97,98]
    | _ => false) = true := by decide +kernel
-- "HTTPS://h" → scheme https, authority h, empty path
example : (match parse [72,84,84,80,83,58,47,47,104] with
    | .ok u => u == ⟨some .https, [104], [], none⟩ | _ => false) = true := by decide
example : (match parse [104] with | .err => true | _ => false) = true := by decide

end Omaha.Uri
