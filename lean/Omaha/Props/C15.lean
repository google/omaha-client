/-
C15 — Requests have exactly the Omaha v3 wire shape.

The theorems are about the builder state reached by *any* sequence of builder operations and
about the JSON value / header list built from it.  The text layer (`Json.render`) is tied to
serde_json by the byte-exact correspondence stream `wire-req`.
-/
import Omaha.Request

namespace Omaha.Request

open Omaha

/-! ### Specification of a builder-operation sequence, per app id -/

def opApp : Op → Option App
  | .updateCheck a => some a
  | .ping a => some a
  | .event a _ => some a
  | _ => none

def appsOf (ops : List Op) : List App := ops.filterMap opApp

/-- Append unless already present: ids in first-insertion order, once each. -/
def dedupL (xs : List Bytes) : List Bytes :=
  xs.foldl (fun acc x => if x ∈ acc then acc else acc ++ [x]) []

def firstApp (ops : List Op) (i : Bytes) : Option App := (appsOf ops).find? (fun a => a.id = i)

def eventsOf (ops : List Op) (i : Bytes) : List Event :=
  ops.filterMap fun
    | .event a ev => if a.id = i then some ev else none
    | _ => none

def pingOf (ops : List Op) (i : Bytes) : Bool :=
  ops.any fun
    | .ping a => a.id = i
    | _ => false

def hasUc (ops : List Op) (i : Bytes) : Bool :=
  ops.any fun
    | .updateCheck a => a.id = i
    | _ => false

def fresh (p : RequestParams) : Builder := { params := p }

theorem snocInduction {α : Type} {P : List α → Prop} (h0 : P [])
    (hs : ∀ l a, P l → P (l ++ [a])) (l : List α) : P l := by
  have : ∀ r : List α, P r.reverse := by
    intro r
    induction r with
    | nil => exact h0
    | cons a r ih => rw [List.reverse_cons]; exact hs _ _ ih
  simpa using this l.reverse

theorem ids_insertAndModify (es : List AppEntry) (app : App) (f : AppEntry → AppEntry)
    (hf : ∀ e, (f e).app.id = e.app.id) :
    (insertAndModify es app f).map (·.app.id) =
      if app.id ∈ es.map (·.app.id) then es.map (·.app.id) else es.map (·.app.id) ++ [app.id] := by
  induction es with
  | nil => simp [insertAndModify, hf]
  | cons e es ih =>
    simp only [insertAndModify]
    by_cases he : e.app.id = app.id
    · simp [he, hf]
    · simp only [he, if_false, List.map_cons, ih, List.mem_cons]
      have : ¬ app.id = e.app.id := fun h => he h.symm
      by_cases hm : app.id ∈ es.map (·.app.id) <;> simp [hm, this]

theorem find_insertAndModify (es : List AppEntry) (app : App) (f : AppEntry → AppEntry)
    (hf : ∀ e, (f e).app.id = e.app.id) (i : Bytes) :
    (insertAndModify es app f).find? (fun e => e.app.id = i) =
      if app.id = i then
        some (f ((es.find? (fun e => e.app.id = app.id)).getD { app := app }))
      else es.find? (fun e => e.app.id = i) := by
  induction es with
  | nil =>
    by_cases h : app.id = i <;> simp [insertAndModify, hf, h]
  | cons e es ih =>
    simp only [insertAndModify]
    by_cases he : e.app.id = app.id
    · by_cases h : app.id = i <;> simp [he, h, hf]
    · simp only [he, if_false, List.find?_cons, ih]
      by_cases h : app.id = i
      · have : ¬ e.app.id = i := by rw [← h]; exact he
        simp [h, this]
      · simp [h]

theorem applyAll_snoc (b : Builder) (ops : List Op) (op : Op) :
    b.applyAll (ops ++ [op]) = (b.applyAll ops).apply op := by
  simp [Builder.applyAll, List.foldl_append]

/-- **build_pure** (model side): continuing to add operations after a build is the same as
having applied all operations to a fresh builder; `build` itself is a function of the builder
value and cannot alter it. -/
theorem applyAll_append (b : Builder) (ops1 ops2 : List Op) :
    (b.applyAll ops1).applyAll ops2 = b.applyAll (ops1 ++ ops2) := by
  simp [Builder.applyAll, List.foldl_append]

theorem params_applyAll (b : Builder) (ops : List Op) : (b.applyAll ops).params = b.params := by
  induction ops using snocInduction with
  | h0 => rfl
  | hs ops op ih =>
    rw [applyAll_snoc]
    cases op <;> exact ih

def opMod (p : RequestParams) : Op → AppEntry → AppEntry
  | .updateCheck _ => setUc (p.disableUpdates, p.offerUpdateIfSameVersion)
  | .ping _ => setPing
  | .event _ ev => pushEvent ev
  | _ => id

theorem opMod_id (p : RequestParams) (op : Op) (e : AppEntry) : (opMod p op e).app.id = e.app.id := by
  cases op <;> rfl

theorem entries_apply (b : Builder) (op : Op) :
    (b.apply op).entries =
      match opApp op with
      | some a => insertAndModify b.entries a (opMod b.params op)
      | none => b.entries := by
  cases op <;> rfl

theorem dedupL_snoc (xs : List Bytes) (x : Bytes) :
    dedupL (xs ++ [x]) = if x ∈ dedupL xs then dedupL xs else dedupL xs ++ [x] := by
  unfold dedupL
  rw [List.foldl_append]
  rfl

theorem dedupL_nil : dedupL [] = [] := rfl

theorem appsOf_snoc (ops : List Op) (op : Op) : appsOf (ops ++ [op]) = appsOf ops ++ (opApp op).toList := by
  unfold appsOf
  rw [List.filterMap_append]
  cases h : opApp op <;> simp [h]

/-- **apps_once_first_order.** After any operation sequence the app ids of the request are the
ids mentioned by the operations, once each, in first-insertion order. -/
theorem apps_once_first_order (p : RequestParams) (ops : List Op) :
    ((fresh p).applyAll ops).entries.map (·.app.id) = dedupL ((appsOf ops).map (·.id)) := by
  induction ops using snocInduction with
  | h0 => rfl
  | hs ops op ih =>
    rw [applyAll_snoc, entries_apply, appsOf_snoc]
    cases opApp op with
    | none => simpa using ih
    | some a =>
      rw [ids_insertAndModify _ _ _ (opMod_id _ _), ih, Option.toList_some, List.map_append]
      exact (dedupL_snoc _ a.id).symm

/-- Each app appears once… -/
theorem dedupL_nodup (xs : List Bytes) : (dedupL xs).Nodup := by
  induction xs using snocInduction with
  | h0 => exact List.nodup_nil
  | hs xs x ih =>
    rw [dedupL_snoc]
    split
    · exact ih
    · exact List.nodup_append.2 ⟨ih, by simp, fun a ha b hb e => by
        rw [List.mem_singleton.1 hb] at e; exact ‹x ∉ _› (e ▸ ha)⟩

/-- …and exactly the mentioned ids appear. -/
theorem mem_dedupL (xs : List Bytes) (y : Bytes) : y ∈ dedupL xs ↔ y ∈ xs := by
  induction xs using snocInduction with
  | h0 => rfl
  | hs xs x ih =>
    rw [dedupL_snoc, List.mem_append, List.mem_singleton, ← ih]
    split
    · exact ⟨Or.inl, fun h => h.elim id (· ▸ ‹_›)⟩
    · rw [List.mem_append, List.mem_singleton]

theorem firstApp_snoc (ops : List Op) (op : Op) (i : Bytes) :
    firstApp (ops ++ [op]) i =
      (firstApp ops i).or (match opApp op with | some a => if a.id = i then some a else none | none => none) := by
  unfold firstApp
  rw [appsOf_snoc, List.find?_append]
  cases opApp op with
  | none => rfl
  | some a => simp

theorem eventsOf_snoc (ops : List Op) (op : Op) (i : Bytes) :
    eventsOf (ops ++ [op]) i =
      eventsOf ops i ++ (match op with | .event a ev => if a.id = i then [ev] else [] | _ => []) := by
  unfold eventsOf
  rw [List.filterMap_append]
  cases op with
  | event a ev => by_cases h : a.id = i <;> simp [h]
  | _ => rfl

theorem pingOf_snoc (ops : List Op) (op : Op) (i : Bytes) :
    pingOf (ops ++ [op]) i = (pingOf ops i || (match op with | .ping a => decide (a.id = i) | _ => false)) := by
  unfold pingOf
  rw [List.any_append, List.any_cons, List.any_nil, Bool.or_false]

theorem hasUc_snoc (ops : List Op) (op : Op) (i : Bytes) :
    hasUc (ops ++ [op]) i = (hasUc ops i || (match op with | .updateCheck a => decide (a.id = i) | _ => false)) := by
  unfold hasUc
  rw [List.any_append, List.any_cons, List.any_nil, Bool.or_false]

theorem no_mention (ops : List Op) (i : Bytes) (h : firstApp ops i = none) :
    hasUc ops i = false ∧ pingOf ops i = false ∧ eventsOf ops i = [] := by
  induction ops using snocInduction with
  | h0 => simp [hasUc, pingOf, eventsOf]
  | hs ops op ih =>
    rw [firstApp_snoc, Option.or_eq_none_iff] at h
    obtain ⟨ih1, ih2, ih3⟩ := ih h.1
    rw [hasUc_snoc, pingOf_snoc, eventsOf_snoc, ih1, ih2, ih3]
    replace h := h.2
    cases op with
    | updateCheck a => by_cases ha : a.id = i <;> simp_all [opApp]
    | ping a => by_cases ha : a.id = i <;> simp_all [opApp]
    | event a ev => by_cases ha : a.id = i <;> simp_all [opApp]
    | requestId g => simp
    | sessionId g => simp

/-- **first insertion's app data kept / events_in_order / flags.** For every app id, the entry
of the request is determined by the operations that mention that id: the app data (version,
fingerprint, cohort, user counting, extras) of the *first* such operation, an update check (with
the parameters' two flags) iff one was added, a ping iff one was added, and exactly the events
added for it, in insertion order. -/
theorem entry_spec (p : RequestParams) (ops : List Op) (i : Bytes) :
    ((fresh p).applyAll ops).entries.find? (fun e => e.app.id = i) =
      (firstApp ops i).map fun a =>
        { app := a,
          updateCheck := if hasUc ops i then some (p.disableUpdates, p.offerUpdateIfSameVersion) else none,
          ping := pingOf ops i,
          events := eventsOf ops i } := by
  induction ops using snocInduction generalizing i with
  | h0 => rfl
  | hs ops op ih =>
    rw [applyAll_snoc, entries_apply, params_applyAll, firstApp_snoc, hasUc_snoc, pingOf_snoc, eventsOf_snoc]
    cases op with
    | requestId g | sessionId g => simpa [opApp] using ih i
    | updateCheck a | ping a | event a ev =>
      simp only [opApp]
      rw [find_insertAndModify _ _ _ (opMod_id _ _)]
      by_cases h : a.id = i
      · subst h
        rw [ih a.id]
        cases hfa : firstApp ops a.id with
        | none =>
          obtain ⟨h1, h2, h3⟩ := no_mention ops a.id hfa
          simp [h1, h2, h3, opMod, fresh, setUc, setPing, pushEvent]
        | some a0 => simp [opMod, fresh, setUc, setPing, pushEvent]
      · rw [ih i]; simp [h]

theorem ids_spec (p : RequestParams) (ops : List Op) :
    ((fresh p).applyAll ops).requestId =
      (ops.filterMap fun | .requestId g => some g | _ => none).getLast? ∧
    ((fresh p).applyAll ops).sessionId =
      (ops.filterMap fun | .sessionId g => some g | _ => none).getLast? := by
  induction ops using snocInduction with
  | h0 => exact ⟨rfl, rfl⟩
  | hs ops op ih =>
    -- the last id is the one `op` sets, if it sets one, and otherwise the last one before
    rw [applyAll_snoc, List.filterMap_append, List.filterMap_append, List.getLast?_append, List.getLast?_append,
      ← ih.1, ← ih.2]
    cases op <;> exact ⟨rfl, rfl⟩

def keys (j : Json) : List Bytes :=
  match j with
  | .obj kvs => kvs.map (·.1)
  | _ => []

def member (j : Json) (k : String) : Option Json :=
  match j with
  | .obj kvs => (kvs.find? (fun kv => kv.1 = Bytes.ofString k)).map (·.2)
  | _ => none

theorem optStr_keys (k : String) (o : Option Bytes) :
    (optStr k o).map (·.1) = if o.isSome then [Bytes.ofString k] else [] := by
  cases o <;> rfl

/-- **flags_only_when_true.** -/
theorem updatecheck_flags (d s : Bool) :
    flagMember "updatedisabled" d ++ flagMember "sameversionupdate" s =
      (if d then [(Bytes.ofString "updatedisabled", Json.bool true)] else []) ++
      (if s then [(Bytes.ofString "sameversionupdate", Json.bool true)] else []) := by
  simp [flagMember]

/-- **cohort_only_set_fields.** -/
theorem cohort_only_set_fields (c : Cohort) :
    cohortMembers c =
      (match c.id with | some v => [(Bytes.ofString "cohort", Json.str v)] | none => []) ++
      (match c.hint with | some v => [(Bytes.ofString "cohorthint", Json.str v)] | none => []) ++
      (match c.name with | some v => [(Bytes.ofString "cohortname", Json.str v)] | none => []) := rfl

/-- **body_shape** (app object): the members of an app object, in order. -/
theorem app_members (e : AppEntry) :
    appJson e = .obj (
      [(Bytes.ofString "appid", .str e.app.id), (Bytes.ofString "version", .str (Version.print e.app.version))]
      ++ (match e.app.fp with | some f => [(Bytes.ofString "fp", Json.str f)] | none => [])
      ++ cohortMembers e.app.cohort
      ++ (match e.updateCheck with
          | some (d, s) => [(Bytes.ofString "updatecheck", .obj (flagMember "updatedisabled" d ++ flagMember "sameversionupdate" s))]
          | none => [])
      ++ (if e.events = [] then [] else [(Bytes.ofString "event", .arr (e.events.map eventJson))])
      ++ (if e.ping then [(Bytes.ofString "ping", .obj (
            (match e.app.userCounting with | some n => [(Bytes.ofString "ad", Json.int n)] | none => []) ++
            (match e.app.userCounting with | some n => [(Bytes.ofString "rd", Json.int n)] | none => [])))] else [])
      ++ e.app.extras.map fun (k, v) => (k, .str v)) := by
  unfold appJson
  cases e.events <;> rfl

/-- **ping_ad_eq_rd.** When a ping is sent, `ad` and `rd` are both the app's last day number, or
both absent. -/
theorem ping_ad_eq_rd (n : Option Nat) :
    optNat "ad" n ++ optNat "rd" n =
      match n with
      | some d => [(Bytes.ofString "ad", Json.int d), (Bytes.ofString "rd", Json.int d)]
      | none => [] := by
  cases n <;> rfl

/-- **events_in_order** (value level): the event array lists the entry's events in order with
the protocol's numeric codes and only the optional members that are set. -/
theorem event_members (ev : Event) :
    eventJson ev = .obj (
      [(Bytes.ofString "eventtype", .int ev.eventType), (Bytes.ofString "eventresult", .int ev.eventResult)]
      ++ (match ev.errorcode with | some c => [(Bytes.ofString "errorcode", Json.int c)] | none => [])
      ++ (match ev.previousVersion with | some v => [(Bytes.ofString "previousversion", Json.str v)] | none => [])
      ++ (match ev.nextVersion with | some v => [(Bytes.ofString "nextversion", Json.str v)] | none => [])
      ++ (match ev.downloadTimeMs with | some v => [(Bytes.ofString "download_time_ms", Json.int v)] | none => [])) := rfl

/-- **body_shape** (request object): `{"request":{protocol "3.0", updater, updaterversion,
installsource, ismachine true, requestid?, sessionid?, os{platform,version,sp,arch}, app[…]}}`
with the app array following the entries. -/
theorem body_members (cfg : Config) (b : Builder) :
    ∃ req, bodyJson cfg b = .obj [(Bytes.ofString "request", req)] ∧
      keys req = [Bytes.ofString "protocol", Bytes.ofString "updater", Bytes.ofString "updaterversion",
                  Bytes.ofString "installsource", Bytes.ofString "ismachine"]
               ++ (if b.requestId.isSome then [Bytes.ofString "requestid"] else [])
               ++ (if b.sessionId.isSome then [Bytes.ofString "sessionid"] else [])
               ++ [Bytes.ofString "os", Bytes.ofString "app"] := by
  refine ⟨_, rfl, ?_⟩
  simp only [keys, List.map_append, List.map_cons, List.map_nil, optStr_keys, Option.isSome_map]

theorem braced_spec (g : Bytes) : braced g = [123] ++ g ++ [125] := rfl

/-- **headers_shape.** Content type, updater name, interactivity (`fg` iff on-demand) and the
first app's id (absent for a request without apps), in this order. -/
theorem headers_shape (cfg : Config) (b : Builder) :
    headers cfg b =
      [("content-type", Bytes.ofString "application/json"),
       ("X-Goog-Update-Updater", cfg.updaterName),
       ("X-Goog-Update-Interactivity", if b.params.source = .onDemand then Bytes.ofString "fg" else Bytes.ofString "bg")]
      ++ (match b.entries.head? with
          | some e => [("X-Goog-Update-AppId", e.app.id)]
          | none => []) := by
  unfold headers
  cases b.params.source <;> cases b.entries <;> rfl

/-- The request is built iff every header value is acceptable to the `http` crate; the body is
then the rendering of `bodyJson`. -/
theorem build_spec (cfg : Config) (b : Builder) :
    build cfg b = if (headers cfg b).all (fun h => headerValueOk h.2) then
      some ⟨headers cfg b, Json.render (bodyJson cfg b)⟩ else none := rfl

/-! ### Non-vacuity -/

def appA : App := { id := [97], version := ⟨1, 2, 3, 4⟩, cohort := { id := some [99] } }
def appA' : App := { id := [97], version := ⟨9, 9, 9, 9⟩, cohort := { hint := some [104] } }
def appB : App := { id := [98], version := ⟨1, 0, 0, 0⟩ }

example : (((fresh {}).applyAll [.updateCheck appA, .ping appB, .event appA' {eventType := 3}, .ping appA']).entries.map
    fun e => (e.app.id, e.app.version.a, e.updateCheck.isSome, e.ping, e.events.length)) =
    [([97], 1, true, true, 1), ([98], 1, false, true, 0)] := by decide +kernel

example : dedupL [[97], [98], [97], [99], [98]] = [[97], [98], [99]] := by decide +kernel

end Omaha.Request
