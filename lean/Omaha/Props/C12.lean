/-
C12 — Scheduled checks wait for the policy's time and minimum wait.
-/
import Omaha.Lemmas.SMTags

namespace Omaha.SM

open Omaha

/-- **ask_announce_arm.** Before a wait the state machine asks the policy for the timing, stores it
as the schedule's next update time, announces that schedule, and arms `wait_for(min)` (exactly when
a minimum wait is given, with exactly that duration) and `wait_until(time)` with exactly that
bound; the wait is over only when all of the timers armed here have fired (`need`). -/
theorem ask_announce_arm (t : Timing) (w : World) :
    (armWait t (updateNext t w)).2.trace =
      (match t.minWait with
        | some d => [.timerArm (.until_ t.time), .timerArm (.for_ d)]
        | none => [.timerArm (.until_ t.time)]) ++
      [.event (.schedule { w.ctx.sched with next := some t }),
       .policyNext w.apps w.ctx.sched w.ctx.st t] ++ w.trace ∧
    (armWait t (updateNext t w)).1 =
      (match t.minWait with
        | some _ => [w.nTimer, w.nTimer + 1]
        | none => [w.nTimer]) ∧
    (armWait t (updateNext t w)).2.ctx.sched.next = some t := by
  unfold armWait updateNext
  cases t.minWait <;> simp [emit, yieldEv]

theorem outerWait_spec (need : List Nat) (steps : List WaitStep) (w : World) :
    match (outerWait need steps w).1 with
    | .timers => ∀ i ∈ need, WaitStep.fire i ∈ steps
    | .ctl id src => WaitStep.ctl id src ∈ steps
    | .stalled => ∃ i ∈ need, WaitStep.fire i ∉ steps := by
  fun_induction outerWait need steps w
  next need _ =>
    cases need with
    | nil => exact fun _ h => nomatch h
    | cons a _ => exact ⟨a, List.mem_cons_self, fun h => nomatch h⟩
  next need j _ _ _ need' he =>
    intro i hi
    by_cases hij : i = j
    · exact hij ▸ List.mem_cons_self
    · have : i ∈ need' := List.mem_filter.2 ⟨hi, decide_eq_true hij⟩
      rw [List.isEmpty_iff.1 he] at this
      cases this
  next need j rest _ _ need' _ ih =>
    generalize (outerWait need' rest _).1 = r at ih ⊢
    cases r with
    | timers =>
      intro i hi
      by_cases hij : i = j
      · exact hij ▸ List.mem_cons_self
      · exact List.mem_cons_of_mem _ (ih i (List.mem_filter.2 ⟨hi, decide_eq_true hij⟩))
    | ctl id src => exact List.mem_cons_of_mem _ ih
    | stalled =>
      obtain ⟨i, hi, hni⟩ := ih
      have := List.mem_filter.1 hi
      refine ⟨i, this.1, fun h => ?_⟩
      rcases List.mem_cons.1 h with h | h
      · exact of_decide_eq_true this.2 (WaitStep.fire.inj h)
      · exact hni h
  next => exact List.mem_cons_self

/-- **no_early_check.** If the outer wait ends because of timers, every timer armed for it has
fired — whatever the order of firings. -/
theorem outerWait_timers_all_fired (need : List Nat) (steps : List WaitStep) (w : World)
    (h : (outerWait need steps w).1 = .timers) : ∀ i ∈ need, WaitStep.fire i ∈ steps := by
  have := outerWait_spec need steps w
  rwa [h] at this

/-- A control request ends the wait at once — no timer needs to fire (**wakes_without_timer**) — and
it is the only other way the wait ends. -/
theorem outerWait_ctl_first (need : List Nat) (id : Nat) (src : InstallSource) (rest : List WaitStep) (w : World) :
    outerWait need (.ctl id src :: rest) w = (.ctl id src, w) := by
  unfold outerWait; rfl

theorem outerWait_ctl_mem (need : List Nat) (steps : List WaitStep) (w : World) (id : Nat) (src : InstallSource)
    (h : (outerWait need steps w).1 = .ctl id src) : WaitStep.ctl id src ∈ steps := by
  have := outerWait_spec need steps w
  rwa [h] at this

/-- While only a proper subset of the armed timers has fired, the machine keeps waiting (the script
ends `stalled`): nothing but the firings is added to the trace. -/
theorem outerWait_subset_waits (need : List Nat) (steps : List WaitStep) (w : World)
    (hf : ∀ s ∈ steps, ∃ i, s = .fire i) (hm : ∃ i ∈ need, WaitStep.fire i ∉ steps) :
    (outerWait need steps w).1 = .stalled := by
  obtain ⟨i, hi, hni⟩ := hm
  cases h : (outerWait need steps w).1 with
  | stalled => rfl
  | timers => exact absurd (outerWait_timers_all_fired need steps w h i hi) hni
  | ctl id src => obtain ⟨j, hj⟩ := hf _ (outerWait_ctl_mem need steps w id src h); cases hj

/-- Either order: when every armed timer fires (and no request arrives), the wait ends on timers. -/
theorem outerWait_all_fired (need : List Nat) (steps : List WaitStep) (w : World)
    (hf : ∀ s ∈ steps, ∃ i, s = .fire i) (hall : ∀ i ∈ need, WaitStep.fire i ∈ steps) (hne : need ≠ []) :
    (outerWait need steps w).1 = .timers := by
  -- `hne` is not needed: with nothing armed the wait ends on timers at once
  have := outerWait_spec need steps w
  cases h : (outerWait need steps w).1 with
  | timers => rfl
  | stalled =>
    rw [h] at this
    obtain ⟨i, hi, hni⟩ := this
    exact absurd (hall i hi) hni
  | ctl id src => obtain ⟨j, hj⟩ := hf _ (outerWait_ctl_mem need steps w id src h); cases hj

/-- A scheduled (unrequested) check is the `.timers` outcome of the wait: in `run`, the policy is asked
with default (scheduled) options exactly in that case. -/
theorem scheduled_check_only_after_timers (u : UnitEnv) (rs : RunState) (w : World) :
    let w0 : World := { w with env := u.env, nTimer := 0 }
    let w2 := updateNext u.next (waitedStep rs w0).2
    let ow := outerWait (armWait u.next w2).1 u.wake (armWait u.next w2).2
    (runUnit u rs w).2.2 =
      match ow.1 with
      | .stalled => tick u.wakeDt ow.2
      | .timers => (decideAndCheck u .scheduledTask none (tick u.wakeDt ow.2)).2
      | .ctl id src => (decideAndCheck u src (some id) (tick u.wakeDt ow.2)).2 := by
  intro w0 w2 ow
  unfold runUnit
  simp only
  split <;> rename_i h <;> simp only [ow, w2, w0, h]

/-- The first question, the 30-minute timer (exactly 1800 s), and the ping schedule by the same
ask-announce-arm rule. -/
theorem rebootWait_start (opts : InstallSource) (u : UnitEnv) (w : World) (h : (popBool u.rebootAllowed).1 = false) :
    ∃ w1, rebootWait opts u w =
        rebootLoop opts w.nTimer (armWait (popTiming u.rebootNext).1 (updateNext (popTiming u.rebootNext).1 w1)).1
          u.rebootSteps (popBool u.rebootAllowed).2 (popTiming u.rebootNext).2
          (armWait (popTiming u.rebootNext).1 (updateNext (popTiming u.rebootNext).1 w1)).2 ∧
      w1.trace = .timerArm (.for_ (1800 * 1000000000)) :: .policyRebootAllowed opts false :: w.trace ∧
      w1.nTimer = w.nTimer + 1 := by
  rw [rebootWait, h]
  exact ⟨_, rfl, rfl, rfl⟩

/-- What a reboot-wait step may add when it is neither a timer firing nor an on-demand request:
only the AlreadyRunning reply. -/
def tReplyOnly : Tag → Bool
  | .reply => true
  | _ => false

/-- **reboot_question_only_on_timer_or_ondemand.** A scheduled (not on-demand) request during the
reboot wait is answered and nothing else happens: no policy question, no ping, no reboot. -/
theorem rebootLoop_scheduled_ctl (opts : InstallSource) (t30 : Nat) (pingNeed : List Nat) (id : Nat) (dt : Clock)
    (rest : List (WaitStep × Clock)) (answers : List Bool) (nexts : List Timing) (w : World) :
    rebootLoop opts t30 pingNeed ((.ctl id .scheduledTask, dt) :: rest) answers nexts w =
      rebootLoop opts t30 pingNeed rest answers nexts (emit (.reply id .alreadyRunning) (tick dt w)) := by
  rw [rebootLoop]
  exact if_neg nofun

/-- A timer that is neither the 30-minute timer nor the last outstanding ping timer only shrinks the
set of timers the ping still waits for: **ping_same_rule** (the ping goes out when the last of them
fires: `rebootLoop_last_fire_pings`). -/
theorem rebootLoop_partial_fire (opts : InstallSource) (t30 : Nat) (pingNeed : List Nat) (i : Nat) (dt : Clock)
    (rest : List (WaitStep × Clock)) (answers : List Bool) (nexts : List Timing) (w : World)
    (h30 : i ≠ t30) (hp : ¬ ((pingNeed.filter (· ≠ i)).isEmpty ∧ pingNeed.contains i)) :
    rebootLoop opts t30 pingNeed ((.fire i, dt) :: rest) answers nexts w =
      rebootLoop opts t30 (pingNeed.filter (· ≠ i)) rest answers nexts (emit (.timerFire i) (tick dt w)) := by
  rw [rebootLoop, if_neg h30]
  exact if_neg hp

theorem rebootLoop_last_fire_pings (opts : InstallSource) (t30 : Nat) (pingNeed : List Nat) (i : Nat) (dt : Clock)
    (rest : List (WaitStep × Clock)) (answers : List Bool) (nexts : List Timing) (w : World)
    (h30 : i ≠ t30) (hp : (pingNeed.filter (· ≠ i)).isEmpty ∧ pingNeed.contains i) :
    rebootLoop opts t30 pingNeed ((.fire i, dt) :: rest) answers nexts w =
      match pingOmaha (emit (.timerFire i) (tick dt w)) with
      | (none, w1) => (none, w1)
      | (some (), w1) =>
        rebootLoop opts t30 (armWait (popTiming nexts).1 (updateNext (popTiming nexts).1 w1)).1 rest answers (popTiming nexts).2
          (armWait (popTiming nexts).1 (updateNext (popTiming nexts).1 w1)).2 := by
  rw [rebootLoop, if_neg h30]
  refine (if_pos hp).trans ?_
  generalize pingOmaha (emit (.timerFire i) (tick dt w)) = pr
  obtain ⟨r, w1⟩ := pr
  cases r <;> rfl

/-- The 30-minute timer re-asks the policy with the wait's current options, and on a refusal is
re-armed for exactly 30 minutes again. -/
theorem rebootLoop_t30 (opts : InstallSource) (t30 : Nat) (pingNeed : List Nat) (dt : Clock)
    (rest : List (WaitStep × Clock)) (answers : List Bool) (nexts : List Timing) (w : World) :
    rebootLoop opts t30 pingNeed ((.fire t30, dt) :: rest) answers nexts w =
      if (popBool answers).1 then
        (some true, emit (.policyRebootAllowed opts true) (emit (.timerFire t30) (tick dt w)))
      else
        rebootLoop opts (emit (.timerFire t30) (tick dt w)).nTimer pingNeed rest (popBool answers).2 nexts
          { emit (.timerArm (.for_ (1800 * 1000000000))) (emit (.policyRebootAllowed opts false) (emit (.timerFire t30) (tick dt w))) with
            nTimer := (emit (.timerFire t30) (tick dt w)).nTimer + 1 } := by
  rw [rebootLoop, if_pos rfl]
  generalize popBool answers = p
  obtain ⟨a, as⟩ := p
  cases a <;> rfl

/-! ### Non-vacuity -/

example : (outerWait [0, 1] [.fire 1, .fire 0] (default : World)).1 = .timers := rfl
example : (outerWait [0, 1] [.fire 1] (default : World)).1 = .stalled := rfl
example : (outerWait [0, 1] [.fire 0, .ctl 7 .onDemand] (default : World)).1 = .ctl 7 .onDemand := rfl

end Omaha.SM
