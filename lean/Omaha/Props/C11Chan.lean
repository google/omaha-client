/-
C11, the channel-closure clauses: a request made after the state machine is gone — or pending when it
goes — is answered `StateMachineGone` instead of hanging; while the machine exists nobody is told it is
gone; a resolved request never changes; a caller is told only what the machine replied to that very
request; dropping every handle changes nothing for the machine.
All statements are about `Omaha.Chan` (Omaha/Chan.lean) and hold for every sequence of operations.
-/
import Omaha.Chan

namespace Omaha.Chan

open Omaha.SM (Reply)

/-- Request ids are chosen fresh by the callers (each call of `start_update_check` is its own request). -/
def Fresh (s : St) : Op → Prop
  | .send id => id ∉ s.pending ∧ id ∉ s.done.map Prod.fst
  | _ => True

def FreshRun : St → List Op → Prop
  | _, [] => True
  | s, op :: rest => Fresh s op ∧ FreshRun (step s op) rest

structure Inv (s : St) : Prop where
  nodup : (s.pending ++ s.done.map Prod.fst).Nodup
  dead : s.alive = false → s.pending = []
  resolved : ∀ p ∈ s.done, p.2 ≠ .pending
  alive : s.alive = true → ∀ p ∈ s.done, p.2 ≠ .gone

theorem lookup_none_of_not_mem {l : List (Nat × Status)} {id : Nat} (h : id ∉ l.map Prod.fst) : l.lookup id = none :=
  List.lookup_eq_none_iff.2 fun _ hp => bne_iff_ne.2 fun e => h (e ▸ List.mem_map_of_mem hp)

theorem lookup_some_mem {l : List (Nat × Status)} {id : Nat} {st : Status} (h : l.lookup id = some st) : (id, st) ∈ l := by
  obtain ⟨l₁, l₂, rfl, -⟩ := List.lookup_eq_some_iff.1 h
  simp

theorem status_resolved (s : St) (id : Nat) {st : Status} (hr : st ≠ .pending) :
    status s id = some st ↔ s.done.lookup id = some st := by
  unfold status
  split
  · simp [*]
  · split <;> simp [*, hr.symm]

/-- The requests a state knows of: what `Inv.nodup` and `Fresh` speak of. -/
def ids (s : St) : List Nat := s.pending ++ s.done.map Prod.fst

theorem mem_ids_iff (s : St) (id : Nat) : id ∈ ids s ↔ (status s id).isSome = true := by
  have : (s.done.lookup id).isSome = true ↔ id ∈ s.done.map Prod.fst := by
    rw [List.lookup_isSome_iff, List.mem_map]
    exact exists_congr fun p => and_congr_right fun _ => by rw [beq_iff_eq, eq_comm]
  rw [ids, List.mem_append, ← this, status]
  cases s.done.lookup id <;> simp

theorem ids_step (s : St) (op : Op) :
    (ids (step s op)).Perm (match op with | .send id => id :: ids s | _ => ids s) := by
  unfold ids
  cases op with
  | send id => cases ha : s.alive <;> simp [step, ha]
  | reply id r =>
    simp only [step]
    split
    · rename_i hc
      have hm : id ∈ s.pending := by simp_all
      exact List.perm_middle.trans ((List.perm_cons_erase hm).symm.append_right _)
    · exact .refl _
  | dropMachine => simp [step, Function.comp_def]
  | dropHandles => exact .refl _

theorem done_step (s : St) (op : Op) : ∃ new, (step s op).done = new ++ s.done ∧
    ∀ p ∈ new, (p.1 ∈ s.pending ∨ op = .send p.1) ∧
      (p.2 = .gone ∧ (step s op).alive = false ∨ ∃ r, p.2 = .replied r ∧ op = .reply p.1 r) := by
  cases op with
  | send id =>
    cases ha : s.alive
    · exact ⟨[(id, .gone)], by simp [step, ha], by simp [step, ha]⟩
    · exact ⟨[], by simp [step, ha], fun _ h => nomatch h⟩
  | reply id r =>
    by_cases hc : (s.alive && s.pending.contains id) = true
    · exact ⟨[(id, .replied r)], by rw [step, if_pos hc]; rfl, by simp_all⟩
    · exact ⟨[], by rw [step, if_neg hc]; rfl, fun _ h => nomatch h⟩
  | dropMachine =>
    refine ⟨s.pending.map (·, .gone), rfl, fun p hp => ?_⟩
    obtain ⟨id, hid, rfl⟩ := List.mem_map.1 hp
    exact ⟨.inl hid, .inl ⟨rfl, rfl⟩⟩
  | dropHandles => exact ⟨[], rfl, fun _ h => nomatch h⟩

theorem nodup_step {s : St} {op : Op} (hi : Inv s) (hf : Fresh s op) : (ids (step s op)).Nodup := by
  refine (ids_step s op).symm.nodup ?_
  cases op with
  | send id => exact List.nodup_cons.2 ⟨fun h => (List.mem_append.1 h).elim hf.1 hf.2, hi.nodup⟩
  | _ => exact hi.nodup

theorem inv_step {s : St} (op : Op) (hi : Inv s) (hf : Fresh s op) : Inv (step s op) := by
  have hn := nodup_step hi hf
  cases op with
  | send id =>
    cases ha : s.alive <;> simp only [step, ha] at hn ⊢
    · exact ⟨hn, fun _ => hi.dead ha, List.forall_mem_cons.2 ⟨nofun, hi.resolved⟩, nofun⟩
    · exact ⟨hn, nofun, hi.resolved, fun _ => hi.alive ha⟩
  | reply id r =>
    by_cases hc : (s.alive && s.pending.contains id) = true <;> simp only [step, hc, ↓reduceIte] at hn ⊢
    · have ha : s.alive = true := (Bool.and_eq_true _ _ ▸ hc).1
      exact ⟨hn, by simp [ha], List.forall_mem_cons.2 ⟨nofun, hi.resolved⟩,
        fun _ => List.forall_mem_cons.2 ⟨nofun, hi.alive ha⟩⟩
    · exact hi
  | dropMachine =>
    refine ⟨hn, fun _ => rfl, fun p hp => ?_, nofun⟩
    rcases List.mem_append.1 hp with hp | hp
    · obtain ⟨_, _, rfl⟩ := List.mem_map.1 hp
      nofun
    · exact hi.resolved p hp
  | dropHandles => exact hi

theorem inv_run' (s : St) (ops : List Op) (hi : Inv s) (hf : FreshRun s ops) : Inv (ops.foldl step s) := by
  induction ops generalizing s with
  | nil => exact hi
  | cons op rest ih => exact ih _ (inv_step op hi hf.1) hf.2

theorem inv_run (ops : List Op) (hf : FreshRun {} ops) : Inv (run ops) :=
  inv_run' _ _ ⟨by simp, by simp, by simp, by simp⟩ hf

theorem dead_no_pending {s : St} (hi : Inv s) (hd : s.alive = false) (id : Nat) : status s id ≠ some .pending := by
  unfold status
  split
  · rename_i st h
    exact fun e => hi.resolved _ (lookup_some_mem h) (Option.some.inj e)
  · simp [hi.dead hd]

theorem sent_known (s : St) (ops : List Op) (id : Nat) (h : id ∈ sent ops ∨ id ∈ ids s) : id ∈ ids (ops.foldl step s) := by
  induction ops generalizing s with
  | nil => simpa [sent] using h
  | cons op rest ih =>
    apply ih
    rw [(ids_step s op).mem_iff]
    cases op with
    | send j => simpa [sent, or_assoc, or_left_comm] using h
    | _ => exact h

/-- **C11, gone instead of hanging**: once the machine has been dropped, every request that was ever made
— before the drop and still unanswered, or after it — has been resolved: with the machine's reply if
it gave one in time, with `StateMachineGone` otherwise. -/
theorem gone_not_hanging (ops : List Op) (hf : FreshRun {} ops) (hd : (run ops).alive = false) (id : Nat)
    (h : id ∈ sent ops) : ∃ st, status (run ops) id = some st ∧ st ≠ .pending := by
  have := (mem_ids_iff (run ops) id).1 (sent_known {} ops id (.inl h))
  cases hs : status (run ops) id with
  | none => simp [hs] at this
  | some st => exact ⟨st, rfl, fun e => dead_no_pending (inv_run ops hf) hd id (e ▸ hs)⟩

theorem send_when_gone (s : St) (id : Nat) (hd : s.alive = false) : status (step s (.send id)) id = some .gone := by
  simp [status, step, hd]

theorem alive_never_gone {s : St} (hi : Inv s) (ha : s.alive = true) (id : Nat) : status s id ≠ some .gone :=
  fun h => hi.alive ha _ (lookup_some_mem ((status_resolved s id (by simp)).1 h)) rfl

theorem resolved_stable {s : St} (op : Op) (hi : Inv s) (hf : Fresh s op) (id : Nat) (st : Status)
    (h : status s id = some st) (hr : st ≠ .pending) : status (step s op) id = some st := by
  rw [status_resolved _ _ hr] at h ⊢
  obtain ⟨new, e, hnew⟩ := done_step s op
  -- a step resolves only requests that were not resolved before
  have hmem : id ∈ s.done.map Prod.fst := List.mem_map.2 ⟨_, lookup_some_mem h, rfl⟩
  have : new.lookup id = none := List.lookup_eq_none_iff.2 fun p hp => bne_iff_ne.2 fun e => by
    subst e
    rcases (hnew p hp).1 with hpend | rfl
    · exact (List.nodup_append.1 hi.nodup).2.2 _ hpend _ hmem rfl
    · exact hf.2 hmem
  rw [e, List.lookup_append, this, h]
  rfl

theorem dropHandles_noop (s : St) : step s .dropHandles = s := rfl

theorem replied_step (s : St) (op : Op) (id : Nat) (r : Reply) (h : status (step s op) id = some (.replied r)) :
    status s id = some (.replied r) ∨ op = .reply id r := by
  rw [status_resolved _ _ (by simp)] at h ⊢
  obtain ⟨new, e, hnew⟩ := done_step s op
  rw [e, List.lookup_append, Option.or_eq_some_iff] at h
  rcases h with h | ⟨-, h⟩
  · obtain ⟨-, ⟨hg, -⟩ | ⟨r', hr', hop⟩⟩ := hnew _ (lookup_some_mem h)
    · cases hg
    · cases hr'; exact .inr hop
  · exact .inl h

theorem replied_only_by_machine' (s : St) (ops : List Op) (id : Nat) (r : Reply)
    (h : status (ops.foldl step s) id = some (.replied r)) :
    status s id = some (.replied r) ∨ Op.reply id r ∈ ops := by
  induction ops generalizing s with
  | nil => exact .inl h
  | cons op rest ih =>
    rcases ih _ h with h' | h'
    · exact (replied_step s op id r h').imp_right fun (e : op = _) => e ▸ List.mem_cons_self
    · exact .inr (List.mem_cons_of_mem _ h')

theorem replied_only_by_machine (ops : List Op) (id : Nat) (r : Reply)
    (h : status (run ops) id = some (.replied r)) : Op.reply id r ∈ ops :=
  (replied_only_by_machine' {} ops id r h).resolve_left (by simp [status])

def demoOps : List Op := [.send 1, .send 2, .reply 1 .started, .dropHandles, .dropMachine, .send 3, .reply 2 .alreadyRunning]

example : FreshRun {} demoOps := by simp [demoOps, FreshRun, Fresh, step]
example : (run demoOps).alive = false := by decide
example : status (run demoOps) 1 = some (.replied .started) := by decide
example : status (run demoOps) 2 = some .gone := by decide
example : status (run demoOps) 3 = some .gone := by decide
example : status (run [.send 1, .send 2, .reply 1 .started]) 2 = some .pending := by decide

end Omaha.Chan
