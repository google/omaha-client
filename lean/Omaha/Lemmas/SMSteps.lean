/-
Every function of the state-machine model is a composition of four kinds of step: it logs an action
that is neither a request nor a storage operation, performs a storage operation, sends a request
(which draws its request id and, with CUP, its nonce), or changes part of the world without logging
anything.  `Steps S w w'` says that `w'` is reached from `w` by such steps within the scope `S`.
Lemmas/SMChain proves it once per model function; the relations the property theorems speak of
(`AddsT`, `Frame`, the builder invariant, the draw discipline, the storage log) are read off it by
one induction each.
-/
import Omaha.Lemmas.SMTags

namespace Omaha.SM

open Omaha

/-- What no function inside an update check changes: the configuration, the CUP setting, the system
app id, the app set, the failure counter, and the part of the environment script that is read, not
consumed (plan / policy / installer answers).  Property theorems use it to state decision tables in
terms of the script *at the start* of the check. -/
structure Frame (w w' : World) : Prop where
  cfg : w'.cfg = w.cfg
  cup : w'.cup = w.cup
  sysApp : w'.sysApp = w.sysApp
  apps : w'.apps = w.apps
  plan : w'.env.plan = w.env.plan
  canStart : w'.env.canStart = w.env.canStart
  results : w'.env.results = w.env.results
  progress : w'.env.progress = w.env.progress
  installDt : w'.env.installDt = w.env.installDt
  rebootNeeded : w'.env.rebootNeeded = w.env.rebootNeeded
  failures : w'.ctx.st.failures = w.ctx.st.failures

theorem Frame.refl (w : World) : Frame w w := ⟨rfl, rfl, rfl, rfl, rfl, rfl, rfl, rfl, rfl, rfl, rfl⟩

theorem Frame.trans {w1 w2 w3 : World} (h1 : Frame w1 w2) (h2 : Frame w2 w3) : Frame w1 w3 :=
  ⟨h2.cfg.trans h1.cfg, h2.cup.trans h1.cup, h2.sysApp.trans h1.sysApp, h2.apps.trans h1.apps,
   h2.plan.trans h1.plan, h2.canStart.trans h1.canStart, h2.results.trans h1.results,
   h2.progress.trans h1.progress, h2.installDt.trans h1.installDt, h2.rebootNeeded.trans h1.rebootNeeded,
   h2.failures.trans h1.failures⟩

theorem frame_emit (a : Action) (w : World) : Frame w (emit a w) := ⟨rfl, rfl, rfl, rfl, rfl, rfl, rfl, rfl, rfl, rfl, rfl⟩
theorem frame_yield (e : Event) (w : World) : Frame w (yieldEv e w) := frame_emit _ _
theorem frame_metric (m : Metric) (w : World) : Frame w (metric m w) := frame_emit _ _

theorem frame_storeOp (op : StoreOp) (w : World) : Frame w (storeOp op w).2 := by
  rw [storeOp_eq]; exact ⟨rfl, rfl, rfl, rfl, rfl, rfl, rfl, rfl, rfl, rfl, rfl⟩

theorem frame_sendRequest (k : ReqKind) (b : Request.Builder) (w : World) : Frame w (sendRequest k b w).2 := by
  -- the exchange is logged on the world with the queue of kind `k` popped
  rw [sendRequest_snd]
  refine Frame.trans ?_ (frame_emit _ _)
  cases k <;> exact ⟨rfl, rfl, rfl, rfl, rfl, rfl, rfl, rfl, rfl, rfl, rfl⟩

theorem frame_withRequestId (b : Request.Builder) (w : World) : Frame w (withRequestId b w).2 :=
  ⟨rfl, rfl, rfl, rfl, rfl, rfl, rfl, rfl, rfl, rfl, rfl⟩

/-- What `Steps.adds`, `.draws` and `.sl` need of a step that logs nothing. -/
structure Quiet (w w' : World) : Prop where
  trace : w'.trace = w.trace
  store : w'.store = w.store
  cup : w'.cup = w.cup
  nNonce : w'.nNonce = w.nNonce
  nGuid : w.nGuid ≤ w'.nGuid

/-- What a stretch of execution may do: the kinds of action it may log, what every request it sends
was built from, and whether it runs outside an update check, where the app set, the failure counter
and the unit's script may change (`Frame` does not hold across such a change). -/
structure Scope where
  tag : Tag → Bool
  req : Request.Builder → Prop := fun _ => True
  outer : Bool := false

def Scope.has (S : Scope) (ok : Tag → Bool) : Prop := ∀ t, ok t = true → S.tag t = true

def Action.plain : Action → Bool
  | .http .. | .storage .. => false
  | _ => true

/-- `send` is a request with a request id of its own (`withRequestId`), the only way the model sends
one.  A `quiet` step must keep `Frame` inside a check; outside (`S.outer = true`) it may replace the
app set, the failure counter or the unit's script.  It may advance the GUID counter (a session id is
drawn without a request) but not the nonce counter, which only a request with CUP advances. -/
inductive Steps (S : Scope) : World → World → Prop
  | refl (w : World) : Steps S w w
  | emit {w w' : World} (a : Action) : Steps S w w' → a.plain = true → S.tag a.tag = true → Steps S w (SM.emit a w')
  | store {w w' : World} (op : StoreOp) : Steps S w w' → S.tag .storage = true → Steps S w (storeOp op w').2
  | send {w w' : World} (k : ReqKind) (b : Request.Builder) : Steps S w w' → S.tag (.http k) = true →
      S.req (withRequestId b w').1 → Steps S w (sendRequest k (withRequestId b w').1 (withRequestId b w').2).2
  | quiet {w w' w'' : World} : Steps S w w' → Quiet w' w'' → (S.outer = false → Frame w' w'') → Steps S w w''

variable {S : Scope}

theorem Steps.trans {w1 w2 w3 : World} (h1 : Steps S w1 w2) (h2 : Steps S w2 w3) : Steps S w1 w3 := by
  induction h2 with
  | refl => exact h1
  | emit a _ hp ht ih => exact .emit a ih hp ht
  | store op _ hs ih => exact .store op ih hs
  | send k b _ hk hb ih => exact .send k b ih hk hb
  | quiet _ q f ih => exact .quiet ih q f

theorem Steps.adds {w w' : World} (h : Steps S w w') : AddsT S.tag w w' := by
  induction h with
  | refl => exact AddsT.refl _ _
  | emit a _ _ ht ih => exact ih.trans (addsT_emit _ a _ ht)
  | store op _ hs ih => exact ih.trans (.of_cons (storeOp_trace op _) hs)
  | send k b _ hk _ ih => exact ih.trans (.of_cons (sendRequest_mkReq k _ _) hk)
  | quiet _ q _ ih => exact ih.trans (AddsT.of_eq _ _ _ q.trace)

theorem Steps.frame {w w' : World} (h : Steps S w w') (ho : S.outer = false) : Frame w w' := by
  induction h with
  | refl => exact Frame.refl _
  | emit a _ _ _ ih => exact ih.trans (frame_emit a _)
  | store op _ _ ih => exact ih.trans (frame_storeOp op _)
  | send k b _ _ _ ih => exact ih.trans ((frame_withRequestId b _).trans (frame_sendRequest k _ _))
  | quiet _ _ f ih => exact ih.trans (f ho)

theorem frame_of_steps {w w' : World} (h : Steps { tag := fun _ => true } w w') : Frame w w' := h.frame rfl

/-! ### Single steps

The chain lemmas take the steps made so far as their last argument, so that a proof reads like the
body of the function it is about, from the outside in. -/

variable {w0 w : World}

theorem steps_emit {a : Action} (hp : a.plain = true) (ht : S.tag a.tag = true) (h : Steps S w0 w) :
    Steps S w0 (emit a w) := .emit a h hp ht

theorem steps_yield {e : Event} (ht : S.tag (Action.event e).tag = true) (h : Steps S w0 w) : Steps S w0 (yieldEv e w) :=
  steps_emit rfl ht h

theorem steps_metric {m : Metric} (ht : S.tag .metric = true) (h : Steps S w0 w) : Steps S w0 (metric m w) :=
  steps_emit rfl ht h

theorem steps_storeOp {op : StoreOp} (hs : S.tag .storage = true) (h : Steps S w0 w) : Steps S w0 (storeOp op w).2 :=
  .store op h hs

theorem steps_storeOp_ {op : StoreOp} (hs : S.tag .storage = true) (h : Steps S w0 w) : Steps S w0 (storeOp_ op w) :=
  steps_storeOp hs h

theorem steps_failures {n : Nat} (ho : S.outer = true) (h : Steps S w0 w) :
    Steps S w0 { w with ctx := { w.ctx with st := { w.ctx.st with failures := n } } } :=
  .quiet h ⟨rfl, rfl, rfl, rfl, Nat.le_refl _⟩ fun h => absurd (ho.symm.trans h) (by decide)

theorem steps_apps {apps : List App} (ho : S.outer = true) (h : Steps S w0 w) : Steps S w0 { w with apps := apps } :=
  .quiet h ⟨rfl, rfl, rfl, rfl, Nat.le_refl _⟩ fun h => absurd (ho.symm.trans h) (by decide)

theorem steps_ctx {c : Ctx} (hf : c.st.failures = w.ctx.st.failures) (h : Steps S w0 w) : Steps S w0 { w with ctx := c } :=
  .quiet h ⟨rfl, rfl, rfl, rfl, Nat.le_refl _⟩ fun _ => ⟨rfl, rfl, rfl, rfl, rfl, rfl, rfl, rfl, rfl, rfl, hf⟩

theorem steps_tick {dt : Clock} (h : Steps S w0 w) : Steps S w0 (tick dt w) :=
  .quiet h ⟨rfl, rfl, rfl, rfl, Nat.le_refl _⟩ fun _ => ⟨rfl, rfl, rfl, rfl, rfl, rfl, rfl, rfl, rfl, rfl, rfl⟩

theorem steps_nextGuid (h : Steps S w0 w) : Steps S w0 (nextGuid w).2 :=
  .quiet h ⟨rfl, rfl, rfl, rfl, Nat.le_succ _⟩ fun _ => ⟨rfl, rfl, rfl, rfl, rfl, rfl, rfl, rfl, rfl, rfl, rfl⟩

theorem steps_nTimer {n : Nat} (h : Steps S w0 w) : Steps S w0 { w with nTimer := n } :=
  .quiet h ⟨rfl, rfl, rfl, rfl, Nat.le_refl _⟩ fun _ => ⟨rfl, rfl, rfl, rfl, rfl, rfl, rfl, rfl, rfl, rfl, rfl⟩

theorem steps_foldl {β} {f : World → β → World} (hf : ∀ b {x}, Steps S w0 x → Steps S w0 (f x b)) (l : List β)
    (h : Steps S w0 w) : Steps S w0 (l.foldl f w) := by
  induction l generalizing w with
  | nil => exact h
  | cons b rest ih => exact ih (hf b h)

end Omaha.SM
