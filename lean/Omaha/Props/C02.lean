/-
C02 — Unauthenticated responses never influence the updater.

The state-machine model takes, per exchange, whether the response is authentic for this request
(`HttpOutcome.response … authentic …`); C01 characterises when the standard handler says so, and the
`sm` stream runs the real `StandardCupv2Handler` against six kinds of forgery.
-/
import Omaha.Props.C06
import Omaha.Props.C07
import Omaha.Props.C08

namespace Omaha.SM

open Omaha

/-- A response without a valid signature for this exchange; it fails authentication when a CUP handler is
configured (`handleOutcome` reads the flag only then). -/
def Unauth (o : HttpOutcome) : Prop := ∃ st ra body dt, o = .response st ra body false dt

/-- **unauth_no_effect** (exchange level). Whatever the forged response carries — status,
X-Retry-After, body — processing it changes neither the context (poll interval, failure count,
last-contact time), nor the apps (cohorts, user counting), nor the store, and emits nothing: no
ProtocolStateChange, no storage action. The result is the validation error. -/
theorem unauth_no_effect (o : HttpOutcome) (w : World) (hu : Unauth o) (hc : w.cup.isSome) :
    (handleOutcome o w).1 matches .error ⟨.cupValidation, false⟩ ∧
    (handleOutcome o w).2.ctx = w.ctx ∧ (handleOutcome o w).2.apps = w.apps ∧
    (handleOutcome o w).2.store = w.store ∧ (handleOutcome o w).2.trace = w.trace := by
  obtain ⟨st, ra, body, dt, rfl⟩ := hu
  refine ⟨?_, no_response_no_change w _ (Or.inr ⟨st, ra, body, dt, rfl, hc⟩)⟩
  rw [handleOutcome_response, if_pos ⟨hc, rfl⟩]

/-- **unauth_no_effect** (request level). A request whose response fails authentication returns the
validation error; context, apps and store are exactly as before the request, and the only action
added to the trace is the exchange itself. -/
theorem unauth_request (k : ReqKind) (b : Request.Builder) (w : World) (hb : buildError w b = none)
    (hc : w.cup.isSome) (hu : Unauth (sendRequest k b w).1) :
    (omahaRequest k b w).1 matches .error ⟨.cupValidation, false⟩ ∧
    (omahaRequest k b w).2.ctx = w.ctx ∧ (omahaRequest k b w).2.apps = w.apps ∧
    (omahaRequest k b w).2.store = w.store ∧
    ∃ req, req.kind = k ∧ (omahaRequest k b w).2.trace = .http req (sendRequest k b w).1 :: w.trace := by
  have e : omahaRequest k b w = handleOutcome (sendRequest k b w).1 (sendRequest k b w).2 := by
    unfold omahaRequest; rw [hb]
  obtain ⟨h1, h2, h3, h4, h5⟩ := unauth_no_effect _ (sendRequest k b w).2 hu (by rw [sendRequest_snd]; exact hc)
  rw [e]
  refine ⟨h1, ?_⟩
  -- processing the response changed nothing; sending the request logged the exchange
  rw [h2, h3, h4, h5, sendRequest_snd]
  exact ⟨rfl, rfl, rfl, _, rfl, rfl⟩

/-- **no retry.** An authentication failure ends the attempt loop at once, on any attempt. -/
theorem unauth_not_retried (attempt : Nat) (poll : Option Nat) :
    giveUp ⟨.cupValidation, false⟩ attempt poll = true :=
  never_retried _ _ _ (Or.inr (Or.inr (Or.inr rfl)))

/-- One step of the loop, when the attempt's request fails with an error that is not retried:
the loop returns that error with the current attempt number, having announced
ErrorCheckingForUpdate — and no further request is made. -/
theorem attemptLoop_stops (fuel attempt : Nat) (b : Request.Builder) (w : World) (f : ReqFail)
    (hres : (omahaRequest .updateCheck (withRequestId b w).1 (withRequestId b w).2).1 = .error f)
    (hg : ∀ poll, giveUp f attempt poll = true) :
    (attemptLoop (fuel + 1) attempt b w).2.1 = attempt ∧
    ucCount (attemptLoop (fuel + 1) attempt b w).2.2 ≤ ucCount w + 1 := by
  have h1 := (attemptOnce_counts b w).2.2
  rw [attemptLoop_succ, show (attemptOnce b w).1 = .error f from hres]
  simp only [hg, if_true]
  generalize attemptOnce b w = r at h1
  -- the announcement is not a request
  exact ⟨trivial, h1⟩

/-- **unauth_check_outcome** (bookkeeping). A check that ends with the validation error counts as
one failed check (Internal failure reason), does not move the last-contact time, and leaves the apps
as they were. -/
theorem unauth_check_bookkeeping (w : World) :
    let w' := finishCheckErr (.omahaRequest .cupValidation) w
    w'.ctx.st.failures = satAdd32 w.ctx.st.failures ∧
    w'.ctx.sched.lastUpdate = w.ctx.sched.lastUpdate ∧
    w'.ctx.st.poll = w.ctx.st.poll ∧
    w'.apps = w.apps ∧ failureReason (.omahaRequest .cupValidation) = 4 := by
  -- no contact, so the check only counts the failure (`finishCheckErr_ctx`); the closing events and the
  -- writes leave the apps alone
  have hc := finishCheckErr_ctx (.omahaRequest .cupValidation) w
  exact ⟨congrArg (·.st.failures) hc, congrArg (·.sched.lastUpdate) hc, congrArg (·.st.poll) hc,
    (closeCheck_frame _ _).2.1.trans (prepareErr_spec _ w).2, rfl⟩

/-- **unauth_event_report.** An event report whose response fails authentication (like any
undelivered report) is recorded as a lost event — the metric is the only trace of it. -/
theorem report_lost_iff (params : RequestParams) (ev : Omaha.Event) (apps : List App) (session : Nat)
    (nv : List (Bytes × Option Bytes)) (ns : Option Nat) (w : World) :
    ∃ b w1, (reportEvent params ev apps session nv ns w) =
      (match (omahaRequest .eventReport b w1).1 with
       | .ok _ => (omahaRequest .eventReport b w1).2
       | .error _ => metric (.eventLost ev) (omahaRequest .eventReport b w1).2) ∧ w1.trace = w.trace ∧
      w1.ctx = w.ctx ∧ w1.apps = w.apps ∧ w1.store = w.store := by
  rw [reportEvent_eq]
  exact ⟨_, _, rfl, rfl, rfl, rfl, rfl⟩

/-- **unauth_ping.** A ping whose response fails authentication counts as one failure and nothing
else changes in the context. -/
theorem ping_failure_counts (w : World) :
    (pingFailed w).ctx.st.failures = satAdd32 w.ctx.st.failures ∧
    (pingFailed w).ctx.sched = w.ctx.sched ∧ (pingFailed w).ctx.st.poll = w.ctx.st.poll ∧
    (pingFailed w).apps = w.apps := by
  have hc := pingFailed_ctx w
  exact ⟨congrArg (·.st.failures) hc, congrArg (·.sched) hc, congrArg (·.st.poll) hc, (persistData_frame _).2.1⟩

/-! ### Non-vacuity -/

example : Unauth (.response 500 (some [53]) [1, 2] false ⟨0, 0⟩) := ⟨_, _, _, _, rfl⟩
example : giveUp ⟨.cupValidation, false⟩ 1 none = true := by decide

end Omaha.SM
