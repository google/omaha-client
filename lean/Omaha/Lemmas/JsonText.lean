/-
Text-level round trip of the JSON writer through the JSON reader:
`parseDoc strictMode (Json.render j) = some (toVal j)` for every document whose strings are valid
UTF-8, whose integers are u64 and whose nesting is below the reader's limit.
-/
import Omaha.Basic.JsonParse
import Omaha.Lemmas.Dec

namespace Omaha.JsonP

open Omaha

theorem hex4_ctl (b : UInt8) (h : b.toNat < 32) (rest : Bytes) :
    hex4 (48 :: 48 :: Hex.nibbleByte (b.toNat / 16) :: Hex.nibbleByte (b.toNat % 16) :: rest) = some (b.toNat, rest) := by
  have h0 : Hex.nibbleVal 48 = some 0 := by decide
  have hd : b.toNat / 16 < 16 := Nat.div_lt_of_lt_mul (Nat.lt_trans h (by decide))
  simp only [hex4, h0, (Hex.nibbleByte_spec _ hd).1, (Hex.nibbleByte_spec _ (Nat.mod_lt _ (by decide))).1,
    Nat.zero_mul, Nat.zero_add, Nat.div_add_mod']

theorem encodeUtf8_small (b : UInt8) (h : b.toNat < 128) : encodeUtf8 b.toNat = [b] := by
  unfold encodeUtf8
  simp only [h, if_true]
  congr 1
  exact UInt8.ofNat_toNat

theorem parseStrBody_plain (strict : Bool) (b : UInt8) (f : Nat) (acc tail : Bytes) (h34 : b ≠ 34) (h92 : b ≠ 92)
    (h32 : ¬ b.toNat < 32) : parseStrBody strict (f + 1) acc (b :: tail) = parseStrBody strict f (b :: acc) tail := by
  -- the equation of `parseStrBody` for a first byte that is none of those its patterns name
  rw [parseStrBody, if_neg h32]
  · exact h34
  · exact fun _ _ h _ => h92 h
  · exact fun h _ => h92 h

/-- The seven short escapes are the reader's and the writer's tables side by side, hence `rfl`;
`split` on the writer's chain of nine `if`s is very slow to check, so the cases are taken one by one. -/
theorem parseStrBody_escapeByte (strict : Bool) (b : UInt8) (f : Nat) (acc tail : Bytes) :
    parseStrBody strict (f + 1) acc (Json.escapeByte b ++ tail) = parseStrBody strict f (b :: acc) tail := by
  by_cases h34 : b = 34; · subst h34; rfl
  by_cases h92 : b = 92; · subst h92; rfl
  by_cases h8 : b = 8; · subst h8; rfl
  by_cases h9 : b = 9; · subst h9; rfl
  by_cases h10 : b = 10; · subst h10; rfl
  by_cases h12 : b = 12; · subst h12; rfl
  by_cases h13 : b = 13; · subst h13; rfl
  rw [Json.escapeByte, if_neg h34, if_neg h92, if_neg h8, if_neg h9, if_neg h10, if_neg h12, if_neg h13]
  by_cases h32 : b.toNat < 32
  · have hlt : ∀ n, 32 ≤ n → b.toNat < n := fun n => Nat.lt_of_lt_of_le h32
    simp [parseStrBody, h32, hex4_ctl b h32, encodeUtf8_small b (hlt 128 (by decide)),
      Nat.not_le.2 (hlt 0xD800 (by decide)), Nat.not_le.2 (hlt 0xDC00 (by decide))]
  · rw [if_neg h32]
    exact parseStrBody_plain strict b f acc tail h34 h92 h32

theorem parseStrBody_escape (strict : Bool) (s : Bytes) : ∀ (fuel : Nat) (acc rest : Bytes), s.length < fuel →
    parseStrBody strict fuel acc (s.flatMap Json.escapeByte ++ 34 :: rest) = some (acc.reverse ++ s, rest) := by
  induction s with
  | nil =>
    intro fuel acc rest hf
    cases fuel with
    | zero => exact absurd hf (Nat.not_lt_zero _)
    | succ f => rw [List.flatMap_nil, List.nil_append, parseStrBody, List.append_nil]
  | cons b s ih =>
    intro fuel acc rest hf
    cases fuel with
    | zero => exact absurd hf (Nat.not_lt_zero _)
    | succ f =>
      rw [List.flatMap_cons, List.append_assoc, parseStrBody_escapeByte, ih f _ rest (Nat.lt_of_succ_lt_succ hf),
        List.reverse_cons, List.append_assoc, List.singleton_append]

theorem escapeByte_ne_nil (b : UInt8) : Json.escapeByte b ≠ [] := by
  fun_cases Json.escapeByte b <;> exact List.cons_ne_nil _ _

theorem length_le_flatMap_escape (s : Bytes) : s.length ≤ (s.flatMap Json.escapeByte).length := by
  induction s with
  | nil => exact Nat.zero_le _
  | cons b s ih =>
    rw [List.flatMap_cons, List.length_append, List.length_cons, Nat.add_comm]
    exact Nat.add_le_add (List.length_pos_iff.2 (escapeByte_ne_nil b)) ih

/-- **string round trip.** The reader's string function on the writer's string: the bytes come
back, the input after the closing quote is untouched.  Strict mode needs the bytes to be UTF-8. -/
theorem parseStr_renderStr (strict : Bool) (s rest : Bytes) (hv : strict = true → validUtf8 s = true) :
    parseStr strict (s.flatMap Json.escapeByte ++ 34 :: rest) = some (s, rest) := by
  unfold parseStr
  rw [parseStrBody_escape strict s _ [] rest (by
    rw [List.length_append]
    exact Nat.lt_succ_of_le (Nat.le_trans (length_le_flatMap_escape s) (Nat.le_add_right _ _)))]
  simp only [List.reverse_nil, List.nil_append]
  cases strict with
  | false => simp
  | true => simp [hv rfl]

/-- What may follow a number without being read as part of it. -/
def NumEnd (rest : Bytes) : Prop :=
  ∀ b r, rest = b :: r → ¬ Dec.isDigit b ∧ b ≠ 46 ∧ b ≠ 101 ∧ b ≠ 69

theorem takeDigits_append (ds rest : Bytes) (hd : ∀ b ∈ ds, Dec.isDigit b) (hr : ∀ b r, rest = b :: r → ¬ Dec.isDigit b) :
    takeDigits (ds ++ rest) = (ds, rest) := by
  induction ds with
  | nil =>
    cases rest with
    | nil => rfl
    | cons b r => exact if_neg (hr b r rfl)
  | cons d ds ih =>
    rw [List.cons_append, takeDigits, ih fun b hb => hd b (List.mem_cons_of_mem d hb)]
    exact if_pos (hd d List.mem_cons_self)

/-- **number round trip (token).** -/
theorem numberToken_render (n : Nat) (rest : Bytes) (hr : NumEnd rest) :
    numberToken (Dec.render n ++ rest) = some (Dec.render n, rest) := by
  have hdig := Dec.render_all_digits n
  have hne := Dec.render_ne_nil n
  have hnd : ∀ b r, rest = b :: r → ¬ Dec.isDigit b := fun b r h => (hr b r h).1
  have h1 : takeSign (Dec.render n ++ rest) = (([] : Bytes), Dec.render n ++ rest) := by
    obtain ⟨b, t, e, hb⟩ := Dec.render_eq_cons n
    -- the equation of `takeSign` for a text that does not begin with `-`
    rw [e, List.cons_append, takeSign]
    rintro r ⟨⟩
    exact absurd hb (by decide)
  have h2 : ¬ ((Dec.render n).length > 1 ∧ (Dec.render n).head? = some 48) := by
    intro ⟨hl, hh⟩
    by_cases hn : n = 0
    · subst hn; simp [Dec.render] at hl
    · exact Dec.render_head n hn hh
  have h3 : takeFrac rest = (([] : Bytes), rest) := by
    unfold takeFrac
    split
    · rename_i r; exact absurd rfl (hr 46 r rfl).2.1
    · rfl
  have h4 : takeExp rest = (([] : Bytes), rest) := by
    unfold takeExp
    split
    · rename_i e r
      obtain ⟨_, _, h101, h69⟩ := hr e r rfl
      simp [h101, h69]
    · rfl
  simp only [numberToken, h1, takeDigits_append _ _ hdig hnd, hne, h2, h3, h4, if_false, List.nil_append, List.append_nil,
    reduceCtorEq, List.contains_nil, Bool.false_eq_true]

theorem render_all_digits_bool (n : Nat) : (Dec.render n).all (fun b => 48 ≤ b.toNat && b.toNat ≤ 57) = true := by
  simp only [List.all_eq_true, Bool.and_eq_true, decide_eq_true_eq]
  exact Dec.render_all_digits n

theorem classify_render (n : Nat) (h : n ≤ Dec.u64Max) : classify (Dec.render n) = .uint n := by
  simp [classify, render_all_digits_bool, Dec.foldDigits_render, h]

theorem wildNumber_render (n : Nat) (h : n ≤ Dec.u64Max) : wildNumber (Dec.render n) = false := by
  have hl : (Dec.render n).length ≤ 20 := Dec.render_length_le n 20 (by decide) (Nat.lt_of_le_of_lt h (by decide))
  simp [wildNumber, render_all_digits_bool, hl]

mutual
  /-- The value the reader produces for a document of the writer (integers are u64). -/
  def toVal : Json → Val
    | .null => .null
    | .bool b => .bool b
    | .int i => .num (.uint i.toNat)
    | .str s => .str s
    | .arr xs => .arr (toVals xs)
    | .obj kvs => .obj (toMembers kvs)
  def toVals : List Json → List Val
    | [] => []
    | x :: xs => toVal x :: toVals xs
  def toMembers : List (Bytes × Json) → List (Bytes × Val)
    | [] => []
    | (k, v) :: rest => (k, toVal v) :: toMembers rest
end

mutual
  def Good : Json → Prop
    | .null => True
    | .bool _ => True
    | .int i => 0 ≤ i ∧ i.toNat ≤ Dec.u64Max
    | .str s => validUtf8 s = true
    | .arr xs => GoodL xs
    | .obj kvs => GoodM kvs
  def GoodL : List Json → Prop
    | [] => True
    | x :: xs => Good x ∧ GoodL xs
  def GoodM : List (Bytes × Json) → Prop
    | [] => True
    | (k, v) :: rest => validUtf8 k = true ∧ Good v ∧ GoodM rest
end

mutual
  def depthOf : Json → Nat
    | .arr xs => 1 + depthL xs
    | .obj kvs => 1 + depthM kvs
    | _ => 0
  def depthL : List Json → Nat
    | [] => 0
    | x :: xs => max (depthOf x) (depthL xs)
  def depthM : List (Bytes × Json) → Nat
    | [] => 0
    | (_, v) :: rest => max (depthOf v) (depthM rest)
end

mutual
  /-- Fuel that suffices for the reader. -/
  def cost : Json → Nat
    | .arr xs => 1 + costL xs
    | .obj kvs => 1 + costM kvs
    | _ => 1
  def costL : List Json → Nat
    | [] => 0
    | x :: xs => 1 + cost x + costL xs
  def costM : List (Bytes × Json) → Nat
    | [] => 0
    | (_, v) :: rest => 1 + cost v + costM rest
end

theorem ne_of_isDigit {b c : UInt8} (hb : Dec.isDigit b) (hc : ¬ Dec.isDigit c) : b ≠ c := fun h => hc (h ▸ hb)

/-- First byte of a rendering: no whitespace and no closing bracket. -/
def StartOk (s : Bytes) : Prop :=
  ∃ b t, s = b :: t ∧ b ≠ 32 ∧ b ≠ 9 ∧ b ≠ 10 ∧ b ≠ 13 ∧ b ≠ 93

theorem startOk_render (j : Json) (hg : Good j) (r : Bytes) : StartOk (Json.render j ++ r) := by
  cases j with
  | null => exact ⟨110, _, rfl, by decide⟩
  | bool b => cases b <;> exact ⟨_, _, rfl, by decide⟩
  | int i =>
    obtain ⟨b, t, e, hb⟩ := Dec.render_eq_cons i.toNat
    refine ⟨b, t ++ r, ?_, ?_⟩
    · simp only [Json.render, Dec.renderInt, show ¬ i < 0 from Int.not_lt.2 hg.1, if_false, e, List.cons_append]
    · exact ⟨ne_of_isDigit hb (by decide), ne_of_isDigit hb (by decide), ne_of_isDigit hb (by decide),
        ne_of_isDigit hb (by decide), ne_of_isDigit hb (by decide)⟩
  | str s => exact ⟨34, _, rfl, by decide⟩
  | arr xs => exact ⟨91, _, rfl, by decide⟩
  | obj kvs => exact ⟨123, _, rfl, by decide⟩

theorem numEnd_cons (b : UInt8) (r : Bytes) (h : b = 44 ∨ b = 93 ∨ b = 125) : NumEnd (b :: r) := by
  intro b' r' he
  cases he
  rcases h with rfl | rfl | rfl <;> decide

theorem skipWs_cons (b : UInt8) (r : Bytes) (h : b ≠ 32 ∧ b ≠ 9 ∧ b ≠ 10 ∧ b ≠ 13) : skipWs (b :: r) = b :: r := by
  simp [skipWs, h.1, h.2.1, h.2.2.1, h.2.2.2]

theorem parseValue_int (m : Mode) (n : Nat) (hn : n ≤ Dec.u64Max) (f depth : Nat) (rest : Bytes) (hr : NumEnd rest) :
    parseValue m (f + 1) depth (Dec.render n ++ rest) = some (.num (.uint n), rest) := by
  obtain ⟨b, t, e, hb⟩ := Dec.render_eq_cons n
  have hnum := numberToken_render n rest hr
  have ne : ∀ c : UInt8, ¬ Dec.isDigit c → b ≠ c := fun c => ne_of_isDigit hb
  rw [e, List.cons_append] at hnum ⊢
  rw [parseValue, skipWs_cons b _ ⟨ne 32 (by decide), ne 9 (by decide), ne 10 (by decide), ne 13 (by decide)⟩]
  split
  · rename_i heq; cases heq
  · rename_i heq; exact absurd (List.head_eq_of_cons_eq heq) (ne 110 (by decide))
  · rename_i heq; exact absurd (List.head_eq_of_cons_eq heq) (ne 116 (by decide))
  · rename_i heq; exact absurd (List.head_eq_of_cons_eq heq) (ne 102 (by decide))
  · rename_i heq; exact absurd (List.head_eq_of_cons_eq heq) (ne 34 (by decide))
  · rename_i heq; exact absurd (List.head_eq_of_cons_eq heq) (ne 91 (by decide))
  · rename_i heq; exact absurd (List.head_eq_of_cons_eq heq) (ne 123 (by decide))
  · rename_i b' r' _ _ _ _ _ _ heq
    cases heq
    simp only [hb.1, hb.2, and_self, or_true, if_true, hnum, ← e, wildNumber_render n hn, Bool.and_false, classify_render n hn]
    rfl

theorem costL_cons_le {x : Json} {xs : List Json} {f : Nat} (h : costL (x :: xs) ≤ f + 1) : cost x ≤ f ∧ costL xs ≤ f := by
  rw [costL] at h; omega

theorem costM_cons_le {k : Bytes} {v : Json} {r : List (Bytes × Json)} {f : Nat} (h : costM ((k, v) :: r) ≤ f + 1) :
    cost v ≤ f ∧ costM r ≤ f := by
  rw [costM] at h; omega

theorem depthL_cons_lt {x : Json} {xs : List Json} {d : Nat} (h : depthL (x :: xs) < d) : depthOf x < d ∧ depthL xs < d := by
  rw [depthL] at h; exact Nat.max_lt.1 h

theorem depthM_cons_lt {k : Bytes} {v : Json} {r : List (Bytes × Json)} {d : Nat} (h : depthM ((k, v) :: r) < d) :
    depthOf v < d ∧ depthM r < d := by
  rw [depthM] at h; exact Nat.max_lt.1 h

/-- One level of nesting uses one unit of `fuel` and one of `depth`. -/
theorem nest_bounds {c d f depth : Nat} (hf : 1 + c ≤ f + 1) (hd : 1 + d < depth) : ¬ depth ≤ 1 ∧ c ≤ f ∧ d < depth - 1 := by
  omega

mutual
  /-- **value round trip.**  `fuel` and `depth` are lower bounds: the induction hypothesis is needed
  at whatever the reader has left when it reaches a sub-document.  The patterns take apart only the
  document and the fuel, the other arguments are introduced in each case: a pattern for every
  argument is several times slower to compile. -/
  theorem parseValue_render (m : Mode) : (j : Json) → (fuel depth : Nat) → (rest : Bytes) → Good j → cost j ≤ fuel →
      depthOf j < depth → NumEnd rest → parseValue m fuel depth (Json.render j ++ rest) = some (toVal j, rest)
    | .null, f + 1 | .bool true, f + 1 | .bool false, f + 1 => fun _ _ _ _ _ _ => rfl
    | .int i, f + 1 => by
      intro depth rest hg _ _ hr
      simp only [Json.render, Dec.renderInt, show ¬ i < 0 from Int.not_lt.2 hg.1, if_false, toVal]
      exact parseValue_int m i.toNat hg.2 f depth rest hr
    | .str s, f + 1 => by
      intro _ rest hg _ _ _
      simp only [Json.render, Json.renderStr, List.cons_append, List.append_assoc, List.nil_append, toVal]
      unfold parseValue
      rw [skipWs_cons 34 _ (by decide)]
      simp only [parseStr_renderStr m.strict s rest (fun _ => hg)]
    | .arr xs, f + 1 => by
      intro depth rest hg hf hd _
      simp only [Json.render, List.cons_append, List.append_assoc, List.nil_append, toVal]
      unfold parseValue
      rw [skipWs_cons 91 _ (by decide)]
      rw [cost] at hf
      rw [depthOf] at hd
      obtain ⟨hd1, hf', hd'⟩ := nest_bounds hf hd
      show (if depth ≤ 1 then _ else _) = _
      rw [if_neg hd1]
      cases xs with
      | nil => simp [Json.renderList, skipWs, toVals]
      | cons x xs =>
        have ih := parseElems_render m (x :: xs) (List.cons_ne_nil _ _) f (depth - 1) rest [] hg hf' hd'
        -- the first element does not begin with `]`
        obtain ⟨b, t, e, h1, h2, h3, h4, h93⟩ : StartOk (Json.renderList (x :: xs) ++ 93 :: rest) := by
          cases xs with
          | nil => exact startOk_render x hg.1 _
          | cons y r => simp only [Json.renderList, List.append_assoc]; exact startOk_render x hg.1 _
        split
        · rename_i r' heq
          rw [e, skipWs_cons b t ⟨h1, h2, h3, h4⟩] at heq
          cases heq
          exact absurd rfl h93
        · rw [ih]; simp
    | .obj kvs, f + 1 => by
      intro depth rest hg hf hd _
      simp only [Json.render, List.cons_append, List.append_assoc, List.nil_append, toVal]
      unfold parseValue
      rw [skipWs_cons 123 _ (by decide)]
      rw [cost] at hf
      rw [depthOf] at hd
      obtain ⟨hd1, hf', hd'⟩ := nest_bounds hf hd
      show (if depth ≤ 1 then _ else _) = _
      rw [if_neg hd1]
      cases kvs with
      | nil => simp [Json.renderMembers, skipWs, toMembers]
      | cons kv kvs =>
        have ih := parseMembers_render m (kv :: kvs) (List.cons_ne_nil _ _) f (depth - 1) rest [] hg hf' hd'
        split
        · rename_i r' heq
          obtain ⟨k, v⟩ := kv
          cases kvs <;> simp [Json.renderMembers, Json.renderStr, skipWs] at heq
        · rw [ih]; simp
    | j, 0 => by intro _ _ _ hf; cases j <;> simp [cost] at hf
  theorem parseElems_render (m : Mode) : (xs : List Json) → xs ≠ [] → (fuel depth : Nat) → (rest : Bytes) → (acc : List Val) →
      GoodL xs → costL xs ≤ fuel → depthL xs < depth →
      parseElems m fuel depth (Json.renderList xs ++ 93 :: rest) acc = some (.arr (acc.reverse ++ toVals xs), rest)
    | [], hne, _ => absurd rfl hne
    | [x], _, f + 1 => by
      intro depth rest acc hg hf hd
      simp only [Json.renderList]
      unfold parseElems
      rw [parseValue_render m x f depth (93 :: rest) hg.1 (costL_cons_le hf).1 (depthL_cons_lt hd).1
        (numEnd_cons 93 rest (.inr (.inl rfl)))]
      simp [skipWs, toVals]
    | x :: y :: r, _, f + 1 => by
      intro depth rest acc hg hf hd
      simp only [Json.renderList, List.append_assoc, List.cons_append]
      unfold parseElems
      rw [parseValue_render m x f depth _ hg.1 (costL_cons_le hf).1 (depthL_cons_lt hd).1 (numEnd_cons 44 _ (.inl rfl))]
      simp only [skipWs_cons 44 _ (by decide)]
      rw [parseElems_render m (y :: r) (List.cons_ne_nil _ _) f depth rest (toVal x :: acc) hg.2 (costL_cons_le hf).2
        (depthL_cons_lt hd).2]
      simp [toVals]
    | _ :: _, _, 0 => by intro _ _ _ _ hf; simp [costL] at hf
  theorem parseMembers_render (m : Mode) : (kvs : List (Bytes × Json)) → kvs ≠ [] → (fuel depth : Nat) → (rest : Bytes) →
      (acc : List (Bytes × Val)) → GoodM kvs → costM kvs ≤ fuel → depthM kvs < depth →
      parseMembers m fuel depth (Json.renderMembers kvs ++ 125 :: rest) acc = some (.obj (acc.reverse ++ toMembers kvs), rest)
    | [], hne, _ => absurd rfl hne
    | [(k, v)], _, f + 1 => by
      intro depth rest acc hg hf hd
      simp only [Json.renderMembers, Json.renderStr, List.cons_append, List.append_assoc, List.nil_append]
      unfold parseMembers
      rw [skipWs_cons 34 _ (by decide)]
      simp only [parseStr_renderStr m.strict k _ (fun _ => hg.1), skipWs_cons 58 _ (by decide)]
      rw [parseValue_render m v f depth (125 :: rest) hg.2.1 (costM_cons_le hf).1 (depthM_cons_lt hd).1
        (numEnd_cons 125 rest (.inr (.inr rfl)))]
      simp [skipWs, toMembers]
    | (k, v) :: kv :: r, _, f + 1 => by
      intro depth rest acc hg hf hd
      simp only [Json.renderMembers, Json.renderStr, List.cons_append, List.append_assoc, List.nil_append]
      unfold parseMembers
      rw [skipWs_cons 34 _ (by decide)]
      simp only [parseStr_renderStr m.strict k _ (fun _ => hg.1), skipWs_cons 58 _ (by decide)]
      rw [parseValue_render m v f depth _ hg.2.1 (costM_cons_le hf).1 (depthM_cons_lt hd).1 (numEnd_cons 44 _ (.inl rfl))]
      simp only [skipWs_cons 44 _ (by decide)]
      rw [parseMembers_render m (kv :: r) (List.cons_ne_nil _ _) f depth rest ((k, toVal v) :: acc) hg.2.2 (costM_cons_le hf).2
        (depthM_cons_lt hd).2]
      simp [toMembers]
    | (k, v) :: _, _, 0 => by intro _ _ _ _ hf; simp [costM] at hf
end

mutual
  theorem cost_le : (j : Json) → cost j ≤ 2 * (Json.render j).length
    | .null => by simp [cost, Json.render]
    | .bool true => by simp [cost, Json.render]
    | .bool false => by simp [cost, Json.render]
    | .int i => by
      have : 0 < (Dec.renderInt i).length := List.length_pos_iff.2 (Dec.renderInt_ne_nil i)
      simp only [cost, Json.render]; omega
    | .str s => by simp [cost, Json.render, Json.renderStr]; omega
    | .arr xs => by
      have := costL_le xs
      simp only [cost, Json.render, List.length_cons, List.length_append, List.length_nil]; omega
    | .obj kvs => by
      have := costM_le kvs
      simp only [cost, Json.render, List.length_cons, List.length_append, List.length_nil]; omega
  theorem costL_le : (xs : List Json) → costL xs ≤ 2 * (Json.renderList xs).length + 1
    | [] => by simp [costL]
    | [x] => by
      have := cost_le x
      simp only [costL, Json.renderList]; omega
    | x :: y :: r => by
      have := cost_le x
      have := costL_le (y :: r)
      simp only [costL, Json.renderList, List.length_cons, List.length_append] at *; omega
  theorem costM_le : (kvs : List (Bytes × Json)) → costM kvs ≤ 2 * (Json.renderMembers kvs).length + 1
    | [] => by simp [costM]
    | [(k, v)] => by
      have := cost_le v
      simp only [costM, Json.renderMembers, List.length_cons, List.length_append]; omega
    | (k, v) :: kv :: r => by
      have := cost_le v
      have := costM_le (kv :: r)
      simp only [costM, Json.renderMembers, List.length_cons, List.length_append] at *; omega
end

theorem numEnd_nil : NumEnd [] := fun _ _ h => by cases h

theorem parseDoc_render (j : Json) (hg : Good j) (hd : depthOf j < 100) :
    parseDoc strictMode (Json.render j) = some (toVal j) := by
  have h := parseValue_render strictMode j (2 * (Json.render j).length + 2) 100 [] hg
    (Nat.le_add_right_of_le (cost_le j)) hd numEnd_nil
  rw [List.append_nil] at h
  unfold parseDoc
  rw [show strictMode.maxDepth = 100 from rfl, h]
  rfl

/-- **parse_render (text level).** The reader, in the mode every materialising position of
serde_json accepts, reads the writer's text of a document back as exactly that document — for every
document whose strings are UTF-8, whose integers are u64 and whose nesting stays below the limit. -/
theorem parse_render (j : Json) (hg : Good j) (hd : depthOf j < 100) : parse (Json.render j) = .ok (toVal j) := by
  unfold parse
  rw [parseDoc_render j hg hd]

/-! ### Documents within the round trip's domain

`Fits d j`: `j` is `Good` and nested at most `d` deep.  The lemmas below push it through the
constructors (one level of nesting uses one unit of `d`), so that `Fits (d + k) (someDocument ..)`
is proved by `simp` from the facts about the document's leaves, with no depth arithmetic. -/

def Fits (d : Nat) (j : Json) : Prop := Good j ∧ depthOf j ≤ d
def FitsM (d : Nat) (kvs : List (Bytes × Json)) : Prop := GoodM kvs ∧ depthM kvs ≤ d

@[simp] theorem fits_null (d : Nat) : Fits d .null := ⟨trivial, Nat.zero_le _⟩
@[simp] theorem fits_bool (d : Nat) (b : Bool) : Fits d (.bool b) := ⟨trivial, Nat.zero_le _⟩
@[simp] theorem fits_str (d : Nat) (s : Bytes) : Fits d (.str s) ↔ validUtf8 s = true := by
  simp [Fits, Good, depthOf]
@[simp] theorem fits_int (d : Nat) (i : Int) : Fits d (.int i) ↔ 0 ≤ i ∧ i.toNat ≤ Dec.u64Max := by
  simp [Fits, Good, depthOf]
@[simp] theorem fits_nat (d n : Nat) : Fits d (.int n) ↔ n ≤ Dec.u64Max := by
  simp [Fits, Good, depthOf]
@[simp] theorem fits_arr (d : Nat) (xs : List Json) : Fits (d + 1) (.arr xs) ↔ ∀ x ∈ xs, Fits d x := by
  simp only [Fits, Good, depthOf, Nat.add_comm 1, Nat.add_le_add_iff_right]
  induction xs with
  | nil => simp [GoodL, depthL]
  | cons x xs ih => simp only [GoodL, depthL, Nat.max_le, List.forall_mem_cons, ← ih, and_and_and_comm]
@[simp] theorem fits_obj (d : Nat) (kvs : List (Bytes × Json)) : Fits (d + 1) (.obj kvs) ↔ FitsM d kvs := by
  simp only [Fits, FitsM, Good, depthOf, Nat.add_comm 1, Nat.add_le_add_iff_right]

@[simp] theorem fitsM_nil (d : Nat) : FitsM d [] := ⟨trivial, Nat.zero_le _⟩
@[simp] theorem fitsM_cons (d : Nat) (k : Bytes) (v : Json) (r : List (Bytes × Json)) :
    FitsM d ((k, v) :: r) ↔ validUtf8 k = true ∧ Fits d v ∧ FitsM d r := by
  simp only [FitsM, Fits, GoodM, depthM, Nat.max_le]
  rw [and_assoc, and_and_and_comm]
theorem fitsM_iff (d : Nat) (kvs : List (Bytes × Json)) : FitsM d kvs ↔ ∀ kv ∈ kvs, validUtf8 kv.1 = true ∧ Fits d kv.2 := by
  induction kvs with
  | nil => simp
  | cons kv kvs ih => rw [fitsM_cons, ih, List.forall_mem_cons, and_assoc]
@[simp] theorem fitsM_append (d : Nat) (a b : List (Bytes × Json)) : FitsM d (a ++ b) ↔ FitsM d a ∧ FitsM d b := by
  simp only [fitsM_iff, List.forall_mem_append]

theorem parse_render_fits (j : Json) (d : Nat) (h : Fits d j) (hd : d < 100) : parse (Json.render j) = .ok (toVal j) :=
  parse_render j h.1 (Nat.lt_of_le_of_lt h.2 hd)

theorem validUtf8_ascii (s : Bytes) (h : ∀ b ∈ s, b.toNat < 128) : validUtf8 s = true := by
  induction s with
  | nil => rfl
  | cons b s ih =>
    obtain ⟨hb, hs⟩ := List.forall_mem_cons.1 h
    unfold validUtf8
    exact (if_pos hb).trans (ih hs)

/-- Closes `k.toList.all p = true` for a literal `k` without running `String.toList` on it (see
Lemmas/Dec).  `refine id ?_` first: as a `simp` discharger the proof is assigned to the side goal
with a type check, and without `id` that check compares the literal with `String.ofList` of its
characters by running the UTF-8 encoder; with it the comparison is left to the kernel, whose rule
for literals makes it immediate. -/
macro "lit_chars" : tactic => `(tactic| (refine id ?_; apply Bytes.toList_all_ofList; decide))

/-- The hypothesis is closed by `lit_chars`; deciding `validUtf8` itself on a literal is exponential
for the kernel. -/
theorem lit_ascii (s : String) (h : s.toList.all (fun c => c.toNat < 128) = true) : validUtf8 (Bytes.ofString s) = true := by
  apply validUtf8_ascii
  intro b hb
  obtain ⟨c, hc, rfl⟩ := List.mem_map.1 hb
  have : c.toNat < 128 := of_decide_eq_true (List.all_eq_true.1 h c hc)
  rw [UInt8.toNat_ofNat']
  exact Nat.lt_of_le_of_lt (Nat.mod_le _ _) this

end Omaha.JsonP
