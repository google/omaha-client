/-
C09 — Cohort and user-counting data follow the server and persist.
-/
import Omaha.Lemmas.SMChain
import Omaha.Lemmas.Store
import Omaha.Props.C04
import Omaha.Props.C08

namespace Omaha.SM

open Omaha

/-- **cohort_merge.** Field-wise: present (even empty) overwrites, absent keeps. -/
theorem cohort_merge (c o : Cohort) :
    (updateCohort c o).id = (match o.id with | some v => some v | none => c.id) ∧
    (updateCohort c o).hint = (match o.hint with | some v => some v | none => c.hint) ∧
    (updateCohort c o).name = (match o.name with | some v => some v | none => c.name) := by
  unfold updateCohort
  refine ⟨?_, ?_, ?_⟩
  · cases o.id <;> rfl
  · cases o.hint <;> rfl
  · cases o.name <;> rfl

theorem cohort_empty_overwrites (c : Cohort) :
    (updateCohort c { id := some [], hint := none, name := some [] }).id = some [] ∧
    (updateCohort c { id := some [], hint := none, name := some [] }).hint = c.hint ∧
    (updateCohort c { id := some [], hint := none, name := some [] }).name = some [] :=
  cohort_merge c _

theorem updateFromOmaha_keeps (apps : List App) (rs : List AppResp) :
    (updateFromOmaha apps rs).map (fun a => (a.id, a.version, a.fp, a.extras)) =
      apps.map (fun a => (a.id, a.version, a.fp, a.extras)) := by
  unfold updateFromOmaha
  rw [List.map_map]
  apply List.map_congr_left
  intro a _
  simp only [Function.comp]
  split <;> rfl

/-- **routing.** The app set keeps its apps, ids and order; an app named in the response takes the
merge of its cohort with the (first) response entry bearing its id, and that entry's user-counting
day; an app not named is unchanged. -/
theorem updateFromOmaha_spec (apps : List App) (rs : List AppResp) :
    (updateFromOmaha apps rs).length = apps.length ∧
    (updateFromOmaha apps rs).map (·.id) = apps.map (·.id) ∧
    ∀ i (h : i < apps.length),
      ((updateFromOmaha apps rs)[i]?) = some (
        match rs.find? (fun r => r.id == apps[i].id) with
        | some r => { apps[i] with cohort := updateCohort apps[i].cohort r.cohort, userCounting := r.userCounting }
        | none => apps[i]) := by
  refine ⟨List.length_map _, ?_, ?_⟩
  · simpa only [List.map_map, Function.comp_def] using congrArg (List.map (·.1)) (updateFromOmaha_keeps apps rs)
  · intro i h
    rw [updateFromOmaha, List.getElem?_map, List.getElem?_eq_getElem h]
    rfl

theorem updateFromOmaha_unnamed (apps : List App) (rs : List AppResp) (a : App) (ha : a ∈ apps)
    (hn : ∀ r ∈ rs, r.id ≠ a.id) : a ∈ updateFromOmaha apps rs := by
  refine List.mem_map.2 ⟨a, ha, ?_⟩
  rw [List.find?_eq_none.2 fun r hr h => hn r hr (beq_iff_eq.1 h)]

theorem makeAppResponses_data (r : Resp.Response) (act : AppAction) :
    (makeAppResponses r act).map (fun x => (x.id, x.cohort, x.userCounting)) =
      r.apps.map (fun a => (a.id, a.cohort, r.daystart.bind (·.elapsedDays))) := by
  unfold makeAppResponses
  rw [List.map_map]; rfl

theorem installResponses_data (r : Resp.Response) (rs : List AppResult) :
    (installResponses r rs).map (fun x => (x.id, x.cohort, x.userCounting)) =
      r.apps.map (fun a => (a.id, a.cohort, r.daystart.bind (·.elapsedDays))) := by
  unfold installResponses
  -- the data are read off the response's apps: the first components of the zip
  conv => rhs; rw [← List.map_fst_zip (Nat.le_of_eq (alignResults_length r.apps rs).symm)]
  rw [List.map_map, List.map_map]
  rfl

/-- **only_on_ok (success).** A successful check replaces the app set by its merge with the
check's responses. -/
theorem finishCheckOk_apps (ok : CheckOk) (w : World) :
    (finishCheckOk ok w).apps = updateFromOmaha w.apps ok.responses :=
  (closeCheck_frame _ _).2.1.trans (prepareOk_spec ok w).2

/-- **only_on_ok (failure).** A failed check — whatever the failure — leaves every app as it was;
so does everything a check does before it ends (`frame_performUpdateCheck`). -/
theorem finishCheckErr_apps (e : CheckErr) (w : World) : (finishCheckErr e w).apps = w.apps :=
  (closeCheck_frame _ _).2.1.trans (prepareErr_spec e w).2

theorem check_keeps_apps_until_end (params : RequestParams) (apps : List App) (w : World) :
    (performUpdateCheck params apps w).2.apps = w.apps := (frame_performUpdateCheck params apps w).apps

/-- **only_on_ok (pings).** A successful ping merges like a successful check (every app named gets the
response's cohort fields and day number); a failed ping changes no app. -/
theorem pingSucceeded_apps (r : Resp.Response) (w : World) :
    (pingSucceeded r w).apps = updateFromOmaha w.apps (makeAppResponses r .noUpdate) := by
  unfold pingSucceeded
  exact (persistData_frame _).2.1

theorem pingFailed_apps (w : World) : (pingFailed w).apps = w.apps := (persistData_frame _).2.1

/-- **next_request_sends.** With distinct app ids, the update-check request lists every app of the
set, in order, with exactly the app's current cohort fields, version and fingerprint, an update
check with the parameters' flags, and a ping whose `ad` and `rd` are both the app's user-counting
day (absent when it has none). -/
theorem checkBuilder_wire (params : RequestParams) (apps : List App) (session : Nat) (hnd : (apps.map (·.id)).Nodup) :
    wireApps (checkBuilder params apps session) =
      apps.map fun a => ({ id := a.id, version := a.version, fp := a.fp, cohort := a.cohort,
                           updateCheck := some (params.disableUpdates, params.offerUpdateIfSameVersion),
                           ping := some a.userCounting, events := [] } : WireApp) := by
  unfold checkBuilder wireApps
  simp only
  rw [foldl_entries params _
    (fun a => some { app := a, updateCheck := some (params.disableUpdates, params.offerUpdateIfSameVersion), ping := true })
    ?_ (fun _ _ h => Option.some.inj h ▸ rfl) apps { params := params } rfl hnd (fun _ h => nomatch h),
    List.nil_append, List.filterMap_eq_map', List.map_map]
  · rfl
  · intro b a hp hnew
    refine ⟨hp, ?_⟩
    -- the update check and the ping modify one entry, which is new
    show Request.insertAndModify (Request.insertAndModify b.entries a _) a Request.setPing = _
    rw [insertAndModify_twice _ _ (Request.setUc _) _ (fun _ => rfl), insertAndModify_new _ _ _ hnew, hp]
    rfl

theorem pingBuilder_wire (params : RequestParams) (apps : List App) (hnd : (apps.map (·.id)).Nodup) :
    wireApps (apps.foldl (fun b app => b.apply (.ping app)) ({ params := params } : Request.Builder)) =
      apps.map fun a => ({ id := a.id, version := a.version, fp := a.fp, cohort := a.cohort,
                           updateCheck := none, ping := some a.userCounting, events := [] } : WireApp) := by
  unfold wireApps
  rw [foldl_entries params _ (fun a => some { app := a, ping := true }) ?_ (fun _ _ h => Option.some.inj h ▸ rfl)
    apps { params := params } rfl hnd (fun _ h => nomatch h), List.nil_append, List.filterMap_eq_map', List.map_map]
  · rfl
  · exact fun b a hp hnew => ⟨hp, insertAndModify_new _ _ _ hnew⟩

def storeOpsOf (w : World) : List StoreOp := w.trace.filterMap fun a => match a with
  | .storage op _ => some op
  | _ => none

theorem storeOpsOf_storeOps (ops : List StoreOp) (w : World) :
    storeOpsOf (storeOps ops w) = ops.reverse ++ storeOpsOf w := by
  induction ops generalizing w with
  | nil => rfl
  | cons op rest ih =>
    show storeOpsOf (storeOps rest (storeOp op w).2) = _
    rw [ih, List.reverse_cons, List.append_assoc]
    unfold storeOpsOf
    rw [storeOp_trace]
    rfl

theorem persistApps_ops (apps : List App) (w : World) :
    storeOpsOf (persistApps apps w) = (apps.map appWrite).reverse ++ storeOpsOf w := by
  rw [persistApps_eq, storeOpsOf_storeOps]

/-- **persisted_with_result.** The storage operations that close a check (or a ping) are: the three
context writes, then one write per app of the *current* app set — the app's cohort and
user-counting day, JSON-encoded under the app's id — then one commit. -/
theorem persistData_ops (w : World) :
    ∃ c1 c2 c3, storeOpsOf (persistData w) =
      .commit :: ((w.apps.map appWrite).reverse ++ [c3, c2, c1] ++ storeOpsOf w) :=
  ⟨_, _, _, by
    rw [persistData_eq, storeOpsOf_storeOps, List.reverse_append, List.reverse_append]
    rfl⟩

/-- After a successful check the per-app writes carry the merged values (the merge happens before
the data is persisted). -/
theorem finishCheckOk_persists_merged (ok : CheckOk) (w : World) :
    ∃ w1, finishCheckOk ok w = persistData w1 ∧ w1.apps = updateFromOmaha w.apps ok.responses :=
  -- the closing events are unfolded by rewriting: comparing the world under them with `prepareOk ok w`
  -- up to unfolding tries structure eta at every level and field
  ⟨_, rfl, by simp only [yieldEv, emit, prepareOk_spec]⟩

theorem pingSucceeded_persists_merged (r : Resp.Response) (w : World) :
    ∃ w1, pingSucceeded r w = persistData w1 ∧ w1.apps = updateFromOmaha w.apps (makeAppResponses r .noUpdate) := by
  unfold pingSucceeded
  exact ⟨_, rfl, rfl⟩

theorem persistedAppJson_shape (a : App) :
    persistedAppJson a = Json.render (.obj [
      (Bytes.ofString "cohort", .obj (Request.optStr "cohort" a.cohort.id ++ Request.optStr "cohorthint" a.cohort.hint ++
        Request.optStr "cohortname" a.cohort.name)),
      (Bytes.ofString "user_counting", .obj [(Bytes.ofString "ClientRegulatedByDate",
        match a.userCounting with | some n => .int n | none => .null)])]) := rfl

/-- **restore_fills_unset.** When the stored record decodes to `p`, each cohort field and the
user-counting day of the loaded app is the embedder's value if it set one, the stored value
otherwise; nothing else changes. An undecodable or absent record leaves the app as configured. -/
theorem loadApp_spec (st : Store) (a : App) (text : Bytes) (p : PersistedApp)
    (hs : st.getString a.id = some text) (hd : decodePersistedApp text = some (some p)) :
    loadApp st a = some { a with
      cohort := { id := (match a.cohort.id with | some v => some v | none => p.cohort.id),
                  hint := (match a.cohort.hint with | some v => some v | none => p.cohort.hint),
                  name := (match a.cohort.name with | some v => some v | none => p.cohort.name) },
      userCounting := (match a.userCounting with | some n => some n | none => p.userCounting) } := by
  unfold loadApp
  simp only [hs, hd]
  congr 2
  · congr 1
    · cases a.cohort.id <;> rfl
    · cases a.cohort.hint <;> rfl
    · cases a.cohort.name <;> rfl
  · cases a.userCounting <;> rfl

theorem loadApp_absent (st : Store) (a : App) (hs : st.getString a.id = none) : loadApp st a = some a := by
  unfold loadApp; simp [hs]

theorem loadApp_undecodable (st : Store) (a : App) (text : Bytes)
    (hs : st.getString a.id = some text) (hd : decodePersistedApp text = some none) : loadApp st a = some a := by
  unfold loadApp; simp [hs, hd]

example : updateFromOmaha
    [{ id := [97], version := ⟨1, 0, 0, 0⟩, cohort := { id := some [1], hint := some [2], name := none } },
     { id := [98], version := ⟨1, 0, 0, 0⟩, userCounting := some 5 }]
    [{ id := [98], cohort := { id := some [] }, userCounting := some 9, result := .noUpdate },
     { id := [97], cohort := { hint := some [], name := some [7] }, userCounting := none, result := .noUpdate }] =
    [{ id := [97], version := ⟨1, 0, 0, 0⟩, cohort := { id := some [1], hint := some [], name := some [7] }, userCounting := none },
     { id := [98], version := ⟨1, 0, 0, 0⟩, cohort := { id := some [] }, userCounting := some 9 }] := by decide +kernel

end Omaha.SM
