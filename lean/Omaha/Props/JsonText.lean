/-
Text-level JSON round trip and its uses (C15, C16, C17).

`Lemmas/JsonText` proves that the model of serde_json's reader, in the mode every materialising
position accepts, reads the model of serde_json's compact writer back as the same document
(`parse_render`).  Here it is applied to the request body the client builds (C15), to the document
the mock server sends (C17) and to the encoding of every well-formed response (C16).
-/
import Omaha.Lemmas.JsonText
import Omaha.Props.C15
import Omaha.Lemmas.JsonVal
import Omaha.Props.C17

namespace Omaha.Request

open Omaha Omaha.JsonP

/-- **parse_render.** For every document whose strings are UTF-8, whose integers are u64 and whose
nesting is below 100: reading the rendered text gives the document back. -/
theorem parse_render (j : Json) (hg : Good j) (hd : depthOf j < 100) : JsonP.parse (Json.render j) = .ok (toVal j) :=
  JsonP.parse_render j hg hd

macro "lit!" : term => `(lit_ascii _ (by lit_chars))

/-! ### Well-formed request contents (what Rust's types guarantee: `String`s are UTF-8, numbers are u32/u64) -/

abbrev Ascii (s : Bytes) : Prop := ∀ b ∈ s, b.toNat < 128
abbrev Utf8 (s : Bytes) : Prop := validUtf8 s = true
def OptUtf8 : Option Bytes → Prop
  | some s => Utf8 s
  | none => True

structure WfApp (a : App) : Prop where
  id : Utf8 a.id
  fp : OptUtf8 a.fp
  cid : OptUtf8 a.cohort.id
  chint : OptUtf8 a.cohort.hint
  cname : OptUtf8 a.cohort.name
  uc : ∀ n, a.userCounting = some n → n ≤ Dec.u64Max
  extras : ∀ kv ∈ a.extras, Utf8 kv.1 ∧ Utf8 kv.2

structure WfEvent (e : Event) : Prop where
  ty : e.eventType ≤ Dec.u64Max
  res : e.eventResult ≤ Dec.u64Max
  code : ∀ c, e.errorcode = some c → 0 ≤ c ∧ c.toNat ≤ Dec.u64Max
  pv : OptUtf8 e.previousVersion
  nv : OptUtf8 e.nextVersion
  dl : ∀ n, e.downloadTimeMs = some n → n ≤ Dec.u64Max

structure WfEntry (e : AppEntry) : Prop where
  app : WfApp e.app
  events : ∀ ev ∈ e.events, WfEvent ev

structure WfReq (cfg : Config) (b : Builder) : Prop where
  name : Utf8 cfg.updaterName
  platform : Utf8 cfg.os.platform
  osv : Utf8 cfg.os.version
  sp : Utf8 cfg.os.sp
  arch : Utf8 cfg.os.arch
  rid : ∀ g, b.requestId = some g → Ascii g
  sid : ∀ g, b.sessionId = some g → Ascii g
  entries : ∀ e ∈ b.entries, WfEntry e

theorem joinWith_ascii (d : UInt8) (hd : d.toNat < 128) (ps : List Bytes) (h : ∀ p ∈ ps, Ascii p) :
    Ascii (Bytes.joinWith d ps) := by
  fun_induction Bytes.joinWith d ps with
  | case1 => exact fun _ h => nomatch h
  | case2 p => exact h p List.mem_cons_self
  | case3 p q r ih =>
    intro b hb
    simp only [List.mem_append, List.mem_cons] at hb
    rcases hb with hb | rfl | hb
    · exact h p List.mem_cons_self b hb
    · exact hd
    · exact ih (fun x hx => h x (List.mem_cons_of_mem _ hx)) b hb

theorem render_ascii (n : Nat) : Ascii (Dec.render n) := by
  intro b hb
  have := Dec.render_all_digits n b hb
  unfold Dec.isDigit at this
  omega

theorem print_utf8 (v : Version) : Utf8 (Version.print v) := by
  apply validUtf8_ascii
  apply joinWith_ascii 46 (by decide)
  intro p hp
  simp only [Version.toList, List.map_cons, List.map_nil, List.mem_cons, List.not_mem_nil, or_false] at hp
  rcases hp with rfl | rfl | rfl | rfl <;> exact render_ascii _

theorem braced_utf8 (g : Bytes) (h : Ascii g) : Utf8 (braced g) := by
  apply validUtf8_ascii
  intro b hb
  simp only [braced, List.mem_cons, List.mem_append, List.not_mem_nil, or_false] at hb
  rcases hb with rfl | hb | rfl
  · decide
  · exact h b hb
  · decide

/-! The member-name argument `hk` of the next three lemmas is found by its default: the names are literals. -/

theorem fitsM_optStr {k : String} {o : Option Bytes} (ho : OptUtf8 o) (d : Nat) (hk : Utf8 (Bytes.ofString k) := by exact lit!) :
    FitsM d (optStr k o) := by
  cases o with
  | none => exact fitsM_nil d
  | some s => simpa [optStr, hk, OptUtf8] using ho

theorem fitsM_optNat {k : String} {o : Option Nat} (ho : ∀ n, o = some n → n ≤ Dec.u64Max) (d : Nat)
    (hk : Utf8 (Bytes.ofString k) := by exact lit!) : FitsM d (optNat k o) := by
  cases o with
  | none => exact fitsM_nil d
  | some n => simpa [optNat, hk] using ho n rfl

theorem fitsM_flag {k : String} (b : Bool) (d : Nat) (hk : Utf8 (Bytes.ofString k) := by exact lit!) : FitsM d (flagMember k b) := by
  cases b <;> simp [flagMember, hk]

theorem fits_eventJson (e : Event) (h : WfEvent e) (d : Nat) : Fits (d + 1) (eventJson e) := by
  simp only [eventJson, fits_obj, fitsM_append, fitsM_cons, fitsM_nil, fits_nat, and_true, and_assoc]
  refine ⟨lit!, h.ty, lit!, h.res, ?_, fitsM_optStr h.pv d, fitsM_optStr h.nv d, fitsM_optNat h.dl d⟩
  cases hc : e.errorcode with
  | none => exact fitsM_nil d
  | some c => exact (fitsM_cons ..).2 ⟨lit!, (fits_int ..).2 (h.code c hc), fitsM_nil d⟩

theorem fits_appJson (e : AppEntry) (h : WfEntry e) (d : Nat) : Fits (d + 3) (appJson e) := by
  simp only [appJson, cohortMembers, fits_obj, fitsM_append, fitsM_cons, fitsM_nil, fits_str, and_true, and_assoc]
  refine ⟨lit!, h.app.id, lit!, print_utf8 _, fitsM_optStr h.app.fp _, fitsM_optStr h.app.cid _, fitsM_optStr h.app.chint _,
    fitsM_optStr h.app.cname _, ?_, ?_, ?_, ?_⟩
  · cases e.updateCheck with
    | none => exact fitsM_nil _
    | some ds => exact (fitsM_cons ..).2 ⟨lit!, (fits_obj ..).2 ((fitsM_append ..).2 ⟨fitsM_flag _ _, fitsM_flag _ _⟩), fitsM_nil _⟩
  · split
    · exact fitsM_nil _
    · exact (fitsM_cons ..).2 ⟨lit!, (fits_arr ..).2 (List.forall_mem_map.2 fun ev hev => fits_eventJson ev (h.events ev hev) d), fitsM_nil _⟩
  · split
    · exact (fitsM_cons ..).2 ⟨lit!, (fits_obj ..).2 ((fitsM_append ..).2 ⟨fitsM_optNat h.app.uc _, fitsM_optNat h.app.uc _⟩), fitsM_nil _⟩
    · exact fitsM_nil _
  · rw [fitsM_iff, List.forall_mem_map]
    exact fun kv hkv => ⟨(h.app.extras kv hkv).1, (fits_str ..).2 (h.app.extras kv hkv).2⟩

theorem optUtf8_braced {o : Option Bytes} (h : ∀ g, o = some g → Ascii g) : OptUtf8 (o.map braced) := by
  cases o with
  | none => trivial
  | some g => exact braced_utf8 g (h g rfl)

theorem fits_bodyJson (cfg : Config) (b : Builder) (h : WfReq cfg b) (d : Nat) : Fits (d + 6) (bodyJson cfg b) := by
  simp only [bodyJson, fits_obj, fits_arr, fits_str, fits_bool, fitsM_append, fitsM_cons, fitsM_nil, List.forall_mem_map, and_true, and_assoc]
  exact ⟨lit!, lit!, lit!, lit!, h.name, lit!, print_utf8 _, lit!, by cases b.params.source <;> exact lit!, lit!,
    fitsM_optStr (optUtf8_braced h.rid) _, fitsM_optStr (optUtf8_braced h.sid) _,
    lit!, lit!, h.platform, lit!, h.osv, lit!, h.sp, lit!, h.arch, lit!, fun e he => fits_appJson e (h.entries e he) d⟩

/-- **body_reads_back (C15, text level).** The body the client puts on the wire is a JSON document
that a serde_json-grammar reader — in the mode every position accepts — reads back as exactly the
value `bodyJson` whose members `body_members`, `app_members`, `event_members`, … describe: nothing
is lost, added or altered by the writer's escaping, and the text is not outside the protocol's JSON. -/
theorem body_reads_back (cfg : Config) (b : Builder) (h : WfReq cfg b) (w : Wire) (hb : build cfg b = some w) :
    JsonP.parse w.body = .ok (toVal (bodyJson cfg b)) := by
  rw [build_spec] at hb
  split at hb
  · cases hb
    exact parse_render_fits _ _ (fits_bodyJson cfg b h 0) (by decide)
  · cases hb

end Omaha.Request

/-! ### The mock server's document, as text (C17) -/

namespace Omaha.Mock

open Omaha Omaha.JsonP Omaha.Resp

theorem fitsV_offer (codebase pkg : Bytes) (urgent : Bool) (hc : validUtf8 codebase = true) (hp : validUtf8 pkg = true) (d : Nat) :
    FitsV (d + 5) (offer codebase pkg urgent) := by
  simp (disch := lit_chars) [offer, hc, hp]

theorem fitsV_updateCheckVal (m : RespMeta) (hc : validUtf8 m.codebase = true) (hp : validUtf8 m.packageName = true) (d : Nat) :
    FitsV (d + 5) (updateCheckVal m) := by
  unfold updateCheckVal
  cases m.kind
  · simp (disch := lit_chars)
  · exact fitsV_offer _ _ _ hc hp d
  · exact fitsV_offer _ _ _ hc hp d
  · simp (disch := lit_chars)
  · exact fitsV_offer _ _ _ lit! hp d

theorem fitsV_appObj (id : Bytes) (uc : Option Val) (hid : validUtf8 id = true) (d : Nat)
    (hu : ∀ u, uc = some u → FitsV (d + 5) u) : FitsV (d + 6) (appObj id uc) := by
  cases uc with
  | none => simp (disch := lit_chars) [appObj, hid]
  | some u => simp (disch := lit_chars) [appObj, hid, hu u rfl]

/-- What Rust's `String` guarantees for the server's configuration and the request it answers. -/
def Utf8Inputs (cfg : Cfg) (apps : List ReqApp) : Prop :=
  (∀ a ∈ apps, validUtf8 a.id = true) ∧
  ∀ k m, (k, m) ∈ cfg.responses → validUtf8 m.codebase = true ∧ validUtf8 m.packageName = true

theorem lookup_mem {k : Bytes} {l : List (Bytes × RespMeta)} {m : RespMeta} (h : lookup k l = some m) : (k, m) ∈ l := by
  induction l with
  | nil => cases h
  | cons kv l ih =>
    obtain ⟨k', v⟩ := kv
    simp only [lookup] at h
    split at h
    · cases h; subst k'; exact List.mem_cons_self
    · exact List.mem_cons_of_mem _ (ih h)

theorem fitsV_appVals (cfg : Cfg) (d : Nat) (apps : List ReqApp) (vs : List Val) (h : appVals cfg apps = some vs)
    (hu : Utf8Inputs cfg apps) : ∀ v ∈ vs, FitsV (d + 6) v := by
  revert hu
  refine appVals_induction (P := fun apps vs => Utf8Inputs cfg apps → ∀ v ∈ vs, FitsV (d + 6) v) (fun _ _ hv => nomatch hv) ?_ apps vs h
  intro a rest v rs hv _ ih hu
  refine List.forall_mem_cons.2 ⟨?_, ih ⟨fun x hx => hu.1 x (List.mem_cons_of_mem _ hx), hu.2⟩⟩
  obtain ⟨m, hm, rfl⟩ := appVal_shape cfg a v hv
  obtain ⟨hc, hp⟩ := hu.2 _ m (lookup_mem hm)
  refine fitsV_appObj _ _ (hu.1 a List.mem_cons_self) d fun u hu' => ?_
  split at hu'
  · cases hu'; exact fitsV_updateCheckVal m hc hp d
  · cases hu'

theorem fitsV_responseVal (vs : List Val) (d : Nat) (h : ∀ v ∈ vs, FitsV (d + 6) v) : FitsV (d + 9) (responseVal vs) := by
  simpa (disch := lit_chars) [responseVal, Dec.u64Max] using h

/-- The rendered document starts with `{`: the client's prefix stripping leaves it alone. -/
theorem parseJsonResponse_render_obj (kvs : List (Bytes × Val)) :
    parseJsonResponse (Mock.render (.obj kvs)) = decodeParsed (JsonP.parse (Mock.render (.obj kvs))) :=
  no_prefix_unchanged _ rfl

/-- **mock_doc_reads_back (C17, text level).** The bytes the mock server sends are read by the
client's parser — JSON text reader included — as exactly the document `responseVal vs` that
`client_accepts_mock_doc` / `mock_apps_in_order` describe. -/
theorem mock_doc_reads_back (cfg : Cfg) (apps : List ReqApp) (vs : List Val) (h : appVals cfg apps = some vs)
    (hu : Utf8Inputs cfg apps) :
    parseJsonResponse (Mock.render (responseVal vs)) = decodeWrapper (responseVal vs) := by
  have key : decodeParsed (JsonP.parse (Mock.render (responseVal vs))) = decodeWrapper (responseVal vs) := by
    rw [parse_render_fitsV _ 9 (fitsV_responseVal vs 0 (fitsV_appVals cfg 0 apps vs h hu)) (by decide)]; rfl
  exact (parseJsonResponse_render_obj _).trans key

/-! ### Any response document, as text (C16) -/

/-- **decode_encode (C16, text level).** Every well-formed response value, written as JSON text by
a serde_json-grammar writer — with or without the `)]}'` safety prefix — is decoded by the client's
parser, text reader included, to exactly that value.  (`GoodV`: strings are UTF-8 and numbers are
u64, also inside extension attributes; nesting below the reader's limit.) -/
theorem decode_text_encode (r : Response) (h : r.WF) (hg : GoodV (encWrapper r)) (hd : depthV (encWrapper r) < 100) :
    parseJsonResponse (Mock.render (encWrapper r)) = .ok r ∧
    parseJsonResponse (xssiPrefix ++ Mock.render (encWrapper r)) = .ok r := by
  have key : decodeParsed (JsonP.parse (Mock.render (encWrapper r))) = .ok r := by
    rw [parse_render_val _ hg hd]
    exact decode_encode r h
  exact ⟨(parseJsonResponse_render_obj _).trans key, (prefix_neutral _).trans key⟩

def sampleApp : Resp.App := { id := [97], status := .ok, cohort := {}, ping := none, updateCheck := none, events := none, extras := [] }
def sampleResponse : Response := { protocol := s "3.0", server := none, daystart := some { elapsedDays := some 4775, elapsedSeconds := none }, apps := [sampleApp] }

/-- Non-vacuity: a response with one app offering nothing is within the domain. -/
example : GoodV (encWrapper sampleResponse) := by
  have : FitsV 5 (encWrapper sampleResponse) := by
    simp (disch := lit_chars) [sampleResponse, sampleApp, encWrapper, encResponse, encOpt, encDayStart, encNat, encApp, encStatus,
      Dec.u64Max]
    decide
  exact this.1

end Omaha.Mock
