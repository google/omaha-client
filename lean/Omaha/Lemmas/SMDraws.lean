/-
Draw discipline: every request takes the next GUID draw as its request id and (with CUP) the next
nonce draw, so over any run the request ids are pairwise distinct, distinct from the session ids
drawn before them, and the nonces are pairwise distinct — whatever happens in between (retries,
event reports, pings, restarts of the loop).

`Dr w w'`: `w'` extends `w`'s trace; both counters are monotone; the request-id draws and nonce draws
of the requests added are strictly increasing in time and lie between the old and the new counter.
It holds across every stretch of the model's execution (`Steps.draws`).
-/
import Omaha.Lemmas.SMRequests

namespace Omaha.SM

open Omaha

def ridOf : Action → Option Nat
  | .http r _ => r.requestDraw
  | _ => none

def nonceOf : Action → Option Nat
  | .http r _ => r.nonceDraw
  | _ => none

/-- Newest first: strictly decreasing, all within `[lo, hi)`. -/
def Dec (l : List Nat) (lo hi : Nat) : Prop := l.Pairwise (· > ·) ∧ ∀ x ∈ l, lo ≤ x ∧ x < hi

theorem Dec.nil (lo hi : Nat) : Dec [] lo hi := ⟨List.Pairwise.nil, fun _ h => by cases h⟩

theorem Dec.single (n : Nat) : Dec [n] n (n + 1) :=
  ⟨List.pairwise_singleton _ _, fun _ hx => List.mem_singleton.1 hx ▸ ⟨Nat.le_refl _, Nat.lt_succ_self _⟩⟩

theorem Dec.append {l2 l1 : List Nat} {a b c : Nat} (h2 : Dec l2 b c) (h1 : Dec l1 a b) (hab : a ≤ b) (hbc : b ≤ c) :
    Dec (l2 ++ l1) a c := by
  refine ⟨List.pairwise_append.2 ⟨h2.1, h1.1, fun x hx y hy => ?_⟩, fun x hx => ?_⟩
  · exact Nat.lt_of_lt_of_le (h1.2 y hy).2 (h2.2 x hx).1
  · rcases List.mem_append.1 hx with h | h
    · exact ⟨Nat.le_trans hab (h2.2 x h).1, (h2.2 x h).2⟩
    · exact ⟨(h1.2 x h).1, Nat.lt_of_lt_of_le (h1.2 x h).2 hbc⟩

theorem Dec.nodup {l : List Nat} {lo hi : Nat} (h : Dec l lo hi) : l.Nodup :=
  h.1.imp (fun hab => Nat.ne_of_gt hab)

structure Dr (w w' : World) : Prop where
  ext : ∃ d, w'.trace = d ++ w.trace ∧ Dec (d.filterMap ridOf) w.nGuid w'.nGuid ∧
          Dec (d.filterMap nonceOf) w.nNonce w'.nNonce ∧
          ∀ r o, Action.http r o ∈ d → r.nonceDraw.isSome = w.cup.isSome ∧ r.requestDraw.isSome = true
  guid : w.nGuid ≤ w'.nGuid
  nonce : w.nNonce ≤ w'.nNonce
  cup : w'.cup = w.cup

theorem Dr.refl (w : World) : Dr w w := ⟨⟨[], rfl, Dec.nil _ _, Dec.nil _ _, fun _ _ h => by cases h⟩, Nat.le_refl _, Nat.le_refl _, rfl⟩

theorem Dr.trans {w1 w2 w3 : World} (h1 : Dr w1 w2) (h2 : Dr w2 w3) : Dr w1 w3 := by
  obtain ⟨⟨d1, e1, r1, n1, k1⟩, g1, c1, u1⟩ := h1
  obtain ⟨⟨d2, e2, r2, n2, k2⟩, g2, c2, u2⟩ := h2
  refine ⟨⟨d2 ++ d1, by rw [e2, e1, List.append_assoc], ?_, ?_, ?_⟩, Nat.le_trans g1 g2, Nat.le_trans c1 c2, u2.trans u1⟩
  · rw [List.filterMap_append]; exact r2.append r1 g1 g2
  · rw [List.filterMap_append]; exact n2.append n1 c1 c2
  · intro r o h
    rcases List.mem_append.1 h with h | h
    · exact ⟨by rw [(k2 r o h).1, u1], (k2 r o h).2⟩
    · exact k1 r o h

theorem dr_noHttp {w w' : World} (d : List Action) (e : w'.trace = d ++ w.trace) (hd : ∀ r o, Action.http r o ∉ d)
    (hg : w.nGuid ≤ w'.nGuid) (hn : w'.nNonce = w.nNonce) (hc : w'.cup = w.cup) : Dr w w' := by
  have hrid : d.filterMap ridOf = [] := List.filterMap_eq_nil_iff.2 fun a ha => by
    unfold ridOf
    split
    · exact absurd ha (hd _ _)
    · rfl
  have hnonce : d.filterMap nonceOf = [] := List.filterMap_eq_nil_iff.2 fun a ha => by
    unfold nonceOf
    split
    · exact absurd ha (hd _ _)
    · rfl
  refine ⟨⟨d, e, ?_, ?_, fun r o h => absurd h (hd r o)⟩, hg, Nat.le_of_eq hn.symm, hc⟩
  · rw [hrid]; exact Dec.nil _ _
  · rw [hnonce]; exact Dec.nil _ _

theorem guidOf_guidBytes (g : Nat) : guidOf (guidBytes g) = g := by simp [guidOf, guidBytes]

theorem sendRequest_counters (k : ReqKind) (b : Request.Builder) (w : World) :
    (sendRequest k b w).2.nGuid = w.nGuid ∧
      (sendRequest k b w).2.nNonce = (if w.cup.isSome then w.nNonce + 1 else w.nNonce) ∧
      (sendRequest k b w).2.cup = w.cup := by
  rw [sendRequest_eq]; exact ⟨rfl, rfl, rfl⟩

theorem storeOp_counters (op : StoreOp) (w : World) :
    (storeOp op w).2.nGuid = w.nGuid ∧ (storeOp op w).2.nNonce = w.nNonce := by
  rw [storeOp_eq]; exact ⟨rfl, rfl⟩

theorem dr_send (k : ReqKind) (b : Request.Builder) (w : World) :
    Dr w (sendRequest k (withRequestId b w).1 (withRequestId b w).2).2 := by
  obtain ⟨hg, hn, hc⟩ := sendRequest_counters k (withRequestId b w).1 (withRequestId b w).2
  refine ⟨⟨[_], sendRequest_mkReq k _ _, ?_, ?_, fun r o ha => ?_⟩, hg ▸ Nat.le_succ _, ?_, hc⟩
  · rw [hg]
    show Dec [guidOf (guidBytes w.nGuid)] w.nGuid (w.nGuid + 1)
    rw [guidOf_guidBytes]
    exact Dec.single _
  · rw [hn]
    cases (withRequestId b w).2.cup.isSome
    · exact Dec.nil _ _
    · exact Dec.single _
  · cases List.mem_singleton.1 ha
    refine ⟨?_, rfl⟩
    show (if w.cup.isSome then some w.nNonce else none).isSome = w.cup.isSome
    cases w.cup.isSome <;> rfl
  · rw [hn]
    show w.nNonce ≤ if w.cup.isSome then w.nNonce + 1 else w.nNonce
    split
    · exact Nat.le_succ _
    · exact Nat.le_refl _

theorem Steps.draws {S : Scope} {w w' : World} (h : Steps S w w') : Dr w w' := by
  induction h with
  | refl => exact Dr.refl _
  | emit a _ hp _ ih =>
    exact ih.trans (dr_noHttp [a] rfl (fun r o h => by rw [← List.mem_singleton.1 h] at hp; cases hp) (Nat.le_refl _) rfl rfl)
  | store op _ _ ih =>
    exact ih.trans (dr_noHttp [.storage op (storeOp op _).1] (storeOp_trace op _)
      (fun r o h => by cases List.mem_singleton.1 h)
      (Nat.le_of_eq (storeOp_counters op _).1.symm) (storeOp_counters op _).2 (inv_storeOp op _).cup.symm)
  | send k b _ _ _ ih => exact ih.trans (dr_send k b _)
  | quiet _ q _ ih => exact ih.trans (dr_noHttp [] (by simp [q.trace]) (fun _ _ h => by cases h) q.nGuid q.nNonce q.cup)

/-- **one_draw_per_request (histories).** Over any number of iterations of `run` — checks with their
retries and event reports, pings while waiting to reboot, throttled iterations — the request ids of
all requests are pairwise distinct draws and (with CUP) so are the nonces: the k-th request uses a
draw no earlier request used. -/
theorem history_draws_fresh (us : List UnitEnv) (rs : RunState) (w : World) :
    ∃ d, (runUnits us rs w).2.2.trace = d ++ w.trace ∧ (d.filterMap ridOf).Nodup ∧ (d.filterMap nonceOf).Nodup ∧
      ∀ r o, Action.http r o ∈ d → r.nonceDraw.isSome = w.cup.isSome ∧ r.requestDraw.isSome = true := by
  obtain ⟨⟨d, e, r, n, k⟩, _, _, _⟩ :=
    (steps_runUnits (us := us) (rs := rs) (S := ⟨fun _ => true, fun _ => True, true⟩) (fun _ => rfl) rfl
      (fun _ => trivial) (.refl w)).draws
  exact ⟨d, e, r.nodup, n.nodup, k⟩

end Omaha.SM
