/-
C14 — No input can crash the updater; storage failures are harmless.

Two kinds of statement:
* non-interference (`storage_failures_invisible*`): whatever storage holds and whichever storage
  operations fail, everything else the state machine does — requests, events, policy and installer
  calls, timers, replies — is the same; proved for every unit of work and, by induction, for every
  history of units, via the simulation relation `Sim` (Lemmas/SMTrace) and the `sim_*` chain of
  Lemmas/SMSim;
* range invariants: the arithmetic the state machine performs on stored or counted values stays
  inside the types the code uses (no overflow), for every stored value and through every check and
  ping.
Panic-freedom of the code itself (third-party parsers included) is what the correspondence runs
under `catch_unwind` establish; the model is total by construction.
-/
import Omaha.Lemmas.SMSim
import Omaha.Props.C04
import Omaha.Props.C07
import Omaha.Props.C08

namespace Omaha.SM

open Omaha

def UnitEnv.withStoreFail (u : UnitEnv) (sf : List Bool) : UnitEnv := { u with env := { u.env with storeFail := sf } }

/-- From the policy's decision on, an iteration reads its script from the world (`runUnit` has put it
there), not from the unit. -/
theorem decideAndCheck_withStoreFail (u : UnitEnv) (sf : List Bool) (opts : InstallSource) (ctl : Option Nat)
    (w : World) : decideAndCheck (u.withStoreFail sf) opts ctl w = decideAndCheck u opts ctl w := by
  have after : ∀ opts reboot w, afterCheck (u.withStoreFail sf) opts reboot w = afterCheck u opts reboot w := by
    intro opts reboot w
    unfold afterCheck waitForReboot rebootWait doReboot
    rfl
  unfold decideAndCheck
  simp only [after]
  rfl

/-- **storage_failures_invisible (one iteration of `run`).** Two runs of an iteration that start
from `Sim`-related worlds (same context, apps, clock…; storage contents arbitrary) and differ in
which storage operations fail end in the same way, with the same loop state, in `Sim`-related
worlds: the visible parts of their traces are equal. -/
theorem storage_failures_invisible (u : UnitEnv) (sf : List Bool) (rs : RunState) {w w' : World} (s : Sim w w') :
    (runUnit u rs w).1 = (runUnit (u.withStoreFail sf) rs w').1 ∧
    (runUnit u rs w).2.1 = (runUnit (u.withStoreFail sf) rs w').2.1 ∧
    Sim (runUnit u rs w).2.2 (runUnit (u.withStoreFail sf) rs w').2.2 := by
  show Same₂ _ _
  have hu : (u.withStoreFail sf).next = u.next ∧ (u.withStoreFail sf).wake = u.wake ∧
      (u.withStoreFail sf).wakeDt = u.wakeDt := ⟨rfl, rfl, rfl⟩
  have s0 : Sim ({ w with env := u.env, nTimer := 0 } : World) { w' with env := (u.withStoreFail sf).env, nTimer := 0 } :=
    { s with env := envSim_storeFail u.env sf, nTimer := rfl }
  obtain ⟨e1, s1⟩ := sim_waitedStep rs s0
  obtain ⟨e3, s3⟩ := sim_armWait u.next (sim_updateNext u.next s1)
  unfold runUnit
  simp only [hu.1, hu.2.1, hu.2.2, decideAndCheck_withStoreFail]
  rw [e1, e3]
  generalize (armWait u.next _).1 = need
  obtain ⟨e4, s4⟩ := sim_outerWait need u.wake s3
  rw [e4]
  have s5 := sim_tick u.wakeDt s4
  split
  · exact ⟨rfl, rfl, s5⟩
  · exact ⟨(sim_decideAndCheck u _ _ s5).1, rfl, (sim_decideAndCheck u _ _ s5).2⟩
  · exact ⟨(sim_decideAndCheck u _ _ s5).1, rfl, (sim_decideAndCheck u _ _ s5).2⟩

/-- The requests sent and the events announced (indeed every non-storage, non-metric action), in
order. -/
def visibleTrace (w : World) : List Action := w.trace.filter visible

/-- **storage_failures_invisible (as the property states it).** From the same world, an iteration
with failing storage operations performs the same visible actions as the iteration in which
storage works. -/
theorem faulty_run_looks_healthy (u : UnitEnv) (sf : List Bool) (rs : RunState) (w : World) :
    visibleTrace (runUnit (u.withStoreFail sf) rs w).2.2 = visibleTrace (runUnit (u.withStoreFail []) rs w).2.2 ∧
    (runUnit (u.withStoreFail sf) rs w).1 = (runUnit (u.withStoreFail []) rs w).1 := by
  have h1 := storage_failures_invisible u sf rs (Sim.refl w)
  have h2 := storage_failures_invisible u [] rs (Sim.refl w)
  exact ⟨h1.2.2.trace.symm.trans h2.2.2.trace, h1.1.symm.trans h2.1⟩

/-- **storage_failures_invisible (oneshot_check).** -/
theorem storage_failures_invisible_oneshot (env : Env) (sf : List Bool) {w w' : World} (s : Sim w w') :
    (oneshot env w).1 = (oneshot { env with storeFail := sf } w').1 ∧
    Sim (oneshot env w).2 (oneshot { env with storeFail := sf } w').2 := by
  have s0 : Sim ({ w with env := env } : World) { w' with env := { env with storeFail := sf } } :=
    { s with env := envSim_storeFail env sf }
  obtain ⟨e1, s1⟩ := sim_startUpdateCheck {} s0
  unfold oneshot
  simp only
  rw [e1]
  split <;> exact Same.ret s1

/-- **storage_failures_invisible (histories).** For every history of iterations and every
assignment of storage-failure scripts to them, the run is indistinguishable from the one with
working storage. -/
theorem storage_failures_invisible_history (us : List UnitEnv) (sfs : List (List Bool)) (rs : RunState)
    {w w' : World} (s : Sim w w') (hl : sfs.length = us.length) :
    (runUnits us rs w).1 = (runUnits (List.zipWith UnitEnv.withStoreFail us sfs) rs w').1 ∧
    (runUnits us rs w).2.1 = (runUnits (List.zipWith UnitEnv.withStoreFail us sfs) rs w').2.1 ∧
    Sim (runUnits us rs w).2.2 (runUnits (List.zipWith UnitEnv.withStoreFail us sfs) rs w').2.2 := by
  induction us generalizing sfs rs w w' with
  | nil => exact ⟨rfl, rfl, s⟩
  | cons u rest ih =>
    cases sfs with
    | nil => cases hl
    | cons sf sfs' =>
      obtain ⟨e1, e2, s1⟩ := storage_failures_invisible u sf rs s
      rw [List.zipWith_cons_cons, runUnits_cons, runUnits_cons, e1, e2]
      split
      · exact ih sfs' _ s1 (Nat.succ.inj hl)
      · exact ⟨e1, e2, s1⟩

/-- `u32::MAX`. -/
def u32MaxN : Nat := 4294967295

theorem satAdd32_le (n : Nat) (h : n ≤ u32MaxN) : satAdd32 n ≤ u32MaxN := by
  -- `h` is not needed: the sum saturates
  unfold satAdd32
  split
  · exact Nat.le_refl _
  · exact Nat.not_lt.1 ‹_›

/-- Whatever integer storage holds for the failure counter (any type, any magnitude), the loaded
count fits `u32`. -/
theorem loadFails_le (v : Option Int) : loadFails v ≤ u32MaxN := by
  fun_cases loadFails v
  next n h => exact Int.toNat_le.2 h.2
  next => exact Nat.zero_le _
  next => exact Nat.zero_le _

theorem loadCtx_failures_le (st : Store) : (loadCtx st).st.failures ≤ u32MaxN := loadFails_le _

/-- A check resets the failure counter or counts one more: nothing before the end of the check
touches it (`frame_performUpdateCheck`). -/
theorem startUpdateCheck_failures (params : RequestParams) (w : World) (hm : (startUpdateCheck params w).1 ≠ none) :
    (startUpdateCheck params w).2.ctx.st.failures = 0 ∨
    (startUpdateCheck params w).2.ctx.st.failures = satAdd32 w.ctx.st.failures := by
  unfold startUpdateCheck at hm ⊢
  have hf := (frame_performUpdateCheck params w.apps w).failures
  generalize performUpdateCheck params w.apps w = pr at hf hm
  obtain ⟨res, w1⟩ := pr
  cases res with
  | none => exact absurd rfl hm
  | some cr =>
    cases cr with
    | ok ok => simp only; exact .inl (finishCheckOk_failures ok w1)
    | error e => simp only; exact .inr ((finishCheckErr_failures e w1).trans (congrArg satAdd32 hf))

theorem pingOmaha_failures (w : World) (hm : (pingOmaha w).1 ≠ none) :
    (pingOmaha w).2.ctx.st.failures = 0 ∨ (pingOmaha w).2.ctx.st.failures = satAdd32 w.ctx.st.failures := by
  have hf := (frame_of_steps (steps_request (k := .ping) (b := pingBuilder w.apps (nextGuid w).1) rfl rfl rfl rfl
    trivial (steps_nextGuid (.refl w)))).failures
  unfold pingBuilder at hf
  unfold pingOmaha at hm ⊢
  simp only at hm ⊢
  generalize omahaRequest .ping _ _ = r at hf hm
  obtain ⟨res, w1⟩ := r
  have failed : (pingFailed w1).ctx.st.failures = satAdd32 w.ctx.st.failures :=
    (pingFailed_failures w1).trans (congrArg satAdd32 hf)
  cases res with
  | error f => simp only; exact .inr failed
  | ok body =>
    simp only at hm ⊢
    split
    · rename_i hp
      simp [hp] at hm
    · exact .inr failed
    · exact .inl (pingSucceeded_failures _ w1)

theorem failures_step_le {n m : Nat} (h : n ≤ u32MaxN) (hm : m = 0 ∨ m = satAdd32 n) : m ≤ u32MaxN := by
  rcases hm with rfl | rfl
  · exact Nat.zero_le _
  · exact satAdd32_le n h

theorem failures_in_range_check (params : RequestParams) (w : World) (h : w.ctx.st.failures ≤ u32MaxN)
    (hm : (startUpdateCheck params w).1 ≠ none) :
    (startUpdateCheck params w).2.ctx.st.failures ≤ u32MaxN :=
  failures_step_le h (startUpdateCheck_failures params w hm)

theorem failures_in_range_ping (w : World) (h : w.ctx.st.failures ≤ u32MaxN) (hm : (pingOmaha w).1 ≠ none) :
    (pingOmaha w).2.ctx.st.failures ≤ u32MaxN :=
  failures_step_le h (pingOmaha_failures w hm)

/-- The stored install-attempt counter: for every `i64` found in storage, the value written back
is an `i64` again and the count reported fits `u64`. -/
theorem attemptsInstall_in_range (n : Int) (h1 : -9223372036854775808 ≤ n) (h2 : n ≤ i64Max) :
    let attempts := if n + 1 > i64Max then i64Max else n + 1
    (-9223372036854775808 : Int) ≤ attempts ∧ attempts ≤ i64Max ∧
    (if attempts < 0 then (attempts + 18446744073709551616).toNat else attempts.toNat) < 18446744073709551616 := by
  intro attempts
  have hb : n ≤ attempts ∧ attempts ≤ i64Max := by
    show n ≤ ite _ _ _ ∧ ite _ _ _ ≤ _
    split
    · exact ⟨h2, Int.le_refl _⟩
    · exact ⟨Int.le_add_one (Int.le_refl n), Int.not_lt.1 ‹_›⟩
  clear_value attempts
  have hlo := Int.le_trans h1 hb.1
  refine ⟨hlo, hb.2, ?_⟩
  unfold i64Max at hb
  split <;> omega

theorem durationMs_le (ns : Nat) (m : Nat) (h : durationMs ns = some m) : m ≤ Dec.u64Max := by
  unfold durationMs at h
  simp only at h
  split at h
  · cases h; assumption
  · cases h

/-- The stored poll interval: whatever integer storage holds, the loaded duration is that of a
`u64` count of microseconds. -/
theorem loadPoll_range (v : Option Int) (ns : Nat) (h : loadPoll v = some ns) : ns ≤ 18446744073709551615 * 1000 := by
  cases v with
  | none => cases h
  | some t =>
    rw [loadPoll] at h
    split at h
    · rename_i hb
      cases h
      exact Nat.mul_le_mul_right _ (Int.toNat_le.2 hb.2)
    · cases h

theorem poll_header_le_day (h : Option Bytes) (ns : Nat) (hp : parseRetryAfter h = some ns) : ns ≤ 86400 * 1000000000 :=
  retry_after_le_day h ns hp

/-- **check_terminates.** Whatever the environment does, a check the model describes delivers exactly
one result as its last event (`startUpdateCheck_evs`); the attempt loop has fuel 3 and nothing else
in a check loops, so the model's functions are total by structural recursion. -/
theorem check_delivers_result (params : RequestParams) (w : World) (h : (startUpdateCheck params w).1 ≠ none) :
    ∃ r rest, evs (startUpdateCheck params w).2 = .result r :: rest := by
  obtain ⟨r, mid, he, _⟩ := startUpdateCheck_evs params w h
  exact ⟨r, _, by rw [he]; rfl⟩

/-! ### Non-vacuity -/

example : satAdd32 4294967295 = 4294967295 ∧ satAdd32 7 = 8 := by decide
example : loadFails (some 4294967296) = 0 ∧ loadFails (some (-1)) = 0 ∧ loadFails (some 4294967295) = 4294967295 := by decide
example : (UnitEnv.withStoreFail { next := default, wake := [], allow := .tooSoon } [true, false]).env.storeFail = [true, false] := rfl

end Omaha.SM
