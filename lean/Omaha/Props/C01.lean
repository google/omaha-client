/-
C01 — CUP verification accepts exactly the authentic responses.

All theorems are parametric in `C : Crypto` (hash function and signature predicate); the
cryptographic assumptions (unforgeability, collision resistance) never appear as axioms: the
tamper corollaries take "the presented signature does not verify for the changed message/key"
as an explicit hypothesis, and `for_no_other` reduces acceptance for another exchange to a
signature valid for a different message or to a SHA-256 collision.
-/
import Omaha.Cup
import Omaha.Lemmas.Dec

namespace Omaha.Cup

open Omaha

theorem splitOnce_append (d : UInt8) (a b : Bytes) (h : d ∉ a) : splitOnce d (a ++ d :: b) = some (a, b) := by
  induction a with
  | nil => exact if_pos rfl
  | cons x a ih =>
    have hx : x ≠ d := fun e => h (e ▸ List.mem_cons_self)
    rw [List.cons_append, splitOnce, if_neg hx, ih fun ha => h (List.mem_cons_of_mem x ha)]

theorem splitOnce_eq_some_iff (d : UInt8) (s a b : Bytes) :
    splitOnce d s = some (a, b) ↔ s = a ++ d :: b ∧ d ∉ a := by
  refine ⟨fun h => ?_, fun ⟨hs, hd⟩ => hs ▸ splitOnce_append d a b hd⟩
  fun_induction splitOnce d s generalizing a with
  | case1 => cases h
  | case2 xs =>
    cases h
    exact ⟨rfl, List.not_mem_nil⟩
  | case3 x xs hx a' b' hs ih =>
    cases h
    obtain ⟨rfl, hd⟩ := ih _ hs
    simp [hd, Ne.symm hx]
  | case4 => cases h

theorem splitOnce_eq_none_iff (d : UInt8) (s : Bytes) : splitOnce d s = none ↔ d ∉ s := by
  fun_induction splitOnce d s with
  | case1 => simp
  | case2 xs => simp
  | case3 x xs hx a b hs ih =>
    rw [hs] at ih
    simp [Ne.symm hx, ← ih]
  | case4 x xs hx hs ih =>
    rw [hs] at ih
    simp [Ne.symm hx, ← ih]

theorem verifyWithSignature_ok_iff (C : Crypto) (keys : List (Nat × PubKey)) (sig req resp : Bytes)
    (kid : Nat) (nonce : Bytes) :
    verifyWithSignature C keys sig req resp kid nonce = .ok () ↔
      ∃ r s pk, Der.decodeSig sig = some (r, s) ∧ lookupKey keys kid = some pk ∧
        C.ecdsaVerify pk (txHash C req resp kid nonce) r s = true := by
  unfold verifyWithSignature
  rcases lookupKey keys kid with _ | pk <;> rcases Der.decodeSig sig with _ | ⟨r, s⟩ <;> simp [and_assoc]

/-- **verify_iff.** The verifier accepts, returning `sig`, exactly when: there is an ETag header
made of visible ASCII whose (plain, quoted or weak-quoted) content is `sigHex:hashHex` split at the
first colon; `hashHex` decodes to SHA-256 of the retained request body; `sigHex` decodes to `sig`,
a strict DER signature `(r, s)`; a key is registered for the key id; and `(r, s)` is a valid
signature under that key over the transaction hash of (request body, response body, key id,
nonce). The returned signature is the presented one, unchanged. -/
theorem verify_iff (C : Crypto) (keys : List (Nat × PubKey)) (req nonce : Bytes)
    (etag : Option Bytes) (resp : Bytes) (kid : Nat) (sig : Bytes) :
    verifyResponse C keys req nonce etag resp kid = .ok sig ↔
      ∃ raw sigHex hashHex r s pk,
        etag = some raw ∧ raw.all visible = true ∧
        splitOnce 58 (stripEtag raw) = some (sigHex, hashHex) ∧
        Hex.decode hashHex = some (C.sha256 req) ∧
        Hex.decode sigHex = some sig ∧
        Der.decodeSig sig = some (r, s) ∧
        lookupKey keys kid = some pk ∧
        C.ecdsaVerify pk (txHash C req resp kid nonce) r s = true := by
  constructor
  · fun_cases verifyResponse C keys req nonce etag resp kid
    -- every branch but one ends in an error
    all_goals intro h; cases h
    obtain ⟨r, s, pk, hd, hk, hver⟩ := (verifyWithSignature_ok_iff ..).1 ‹_›
    obtain rfl := Decidable.not_not.1 ‹¬_ ≠ C.sha256 req›
    exact ⟨_, _, _, r, s, pk, rfl, eq_true_of_ne_false ‹_›, ‹_›, ‹_›, ‹_›, hd, hk, hver⟩
  · rintro ⟨raw, sigHex, hashHex, r, s, pk, rfl, hv, hsp, hh, hs, hd, hk, hver⟩
    have := (verifyWithSignature_ok_iff C keys sig req resp kid nonce).2 ⟨r, s, pk, hd, hk, hver⟩
    simp [verifyResponse, hv, hsp, hh, hs, hd, this]

theorem verify_ok_signed {C : Crypto} {keys : List (Nat × PubKey)} {req nonce : Bytes} {etag : Option Bytes}
    {resp : Bytes} {kid : Nat} {sig : Bytes} (h : verifyResponse C keys req nonce etag resp kid = .ok sig) :
    ∃ r s pk, Der.decodeSig sig = some (r, s) ∧ lookupKey keys kid = some pk ∧
      C.ecdsaVerify pk (txHash C req resp kid nonce) r s = true := by
  obtain ⟨_, _, _, r, s, pk, _, _, _, _, _, hd, hk, hv⟩ := (verify_iff ..).1 h
  exact ⟨r, s, pk, hd, hk, hv⟩

/-- **Totality.** Every input yields `ok` or one of the eight error kinds: the model has no
panic outcome, for any ETag bytes whatsoever. -/
theorem verify_total (C : Crypto) (keys) (req nonce : Bytes) (etag) (resp) (kid) :
    (∃ sig, verifyResponse C keys req nonce etag resp kid = .ok sig) ∨
    (∃ e, verifyResponse C keys req nonce etag resp kid = .error e) := by
  cases h : verifyResponse C keys req nonce etag resp kid with
  | ok s => exact Or.inl ⟨s, rfl⟩
  | error e => exact Or.inr ⟨e, rfl⟩

/-! ### Which error for which first failing condition (**verify_error_kind**) -/

theorem err_missing (C : Crypto) (keys) (req nonce : Bytes) (resp) (kid) :
    verifyResponse C keys req nonce none resp kid = .error .etagHeaderMissing := rfl

theorem err_not_string (C : Crypto) (keys) (req nonce : Bytes) (raw) (resp) (kid)
    (hv : raw.all visible = false) :
    verifyResponse C keys req nonce (some raw) resp kid = .error .etagNotString := by
  simp [verifyResponse, hv]

theorem err_malformed (C : Crypto) (keys) (req nonce : Bytes) (raw) (resp) (kid)
    (hv : raw.all visible = true) (hc : (58 : UInt8) ∉ stripEtag raw) :
    verifyResponse C keys req nonce (some raw) resp kid = .error .etagMalformed := by
  have := (splitOnce_eq_none_iff 58 (stripEtag raw)).2 hc
  simp [verifyResponse, hv, this]

theorem err_hash_malformed (C : Crypto) (keys) (req nonce : Bytes) (raw) (resp) (kid)
    (hv : raw.all visible = true) (sigHex hashHex : Bytes)
    (hsp : splitOnce 58 (stripEtag raw) = some (sigHex, hashHex))
    (hh : Hex.decode hashHex = none) :
    verifyResponse C keys req nonce (some raw) resp kid = .error .requestHashMalformed := by
  simp [verifyResponse, hv, hsp, hh]

theorem err_hash_mismatch (C : Crypto) (keys) (req nonce : Bytes) (raw) (resp) (kid)
    (hv : raw.all visible = true) (sigHex hashHex h : Bytes)
    (hsp : splitOnce 58 (stripEtag raw) = some (sigHex, hashHex))
    (hh : Hex.decode hashHex = some h) (hne : h ≠ C.sha256 req) :
    verifyResponse C keys req nonce (some raw) resp kid = .error .requestHashMismatch := by
  simp [verifyResponse, hv, hsp, hh, hne]

/-- After the hash matched: a signature that is not hex, not strict DER, out of range or invalid
for this exchange under the registered key gives `SignatureMalformed` / `SignatureError`, an
unregistered key id gives `SpecifiedPublicKeyIdMissing` — never acceptance. -/
theorem err_after_hash (C : Crypto) (keys) (req nonce : Bytes) (raw) (resp) (kid)
    (hv : raw.all visible = true) (sigHex hashHex : Bytes)
    (hsp : splitOnce 58 (stripEtag raw) = some (sigHex, hashHex))
    (hh : Hex.decode hashHex = some (C.sha256 req)) :
    verifyResponse C keys req nonce (some raw) resp kid =
      match Hex.decode sigHex with
      | none => .error .signatureMalformed
      | some sig =>
        match Der.decodeSig sig with
        | none => .error .signatureError
        | some (r, s) =>
          match lookupKey keys kid with
          | none => .error .keyIdMissing
          | some pk =>
            if C.ecdsaVerify pk (txHash C req resp kid nonce) r s then .ok sig
            else .error .signatureError := by
  unfold verifyResponse verifyWithSignature
  simp only [hv, Bool.true_eq_false, if_false, hsp, hh, ne_eq, not_true_eq_false]
  cases Hex.decode sigHex with
  | none => rfl
  | some sig =>
    simp only
    cases hd : Der.decodeSig sig with
    | none => rfl
    | some rs =>
      obtain ⟨r, s⟩ := rs
      simp only
      cases lookupKey keys kid with
      | none => rfl
      | some pk =>
        simp only
        by_cases hver : C.ecdsaVerify pk (txHash C req resp kid nonce) r s = true <;> simp [hver]

theorem cup2key_injective (k k' : Nat) (nn nn' : Bytes) (h : cup2key k nn = cup2key k' nn') :
    k = k' ∧ nn = nn' := by
  have h1 := splitOnce_append 58 _ (Hex.encode nn) (Dec.not_mem_render (by decide) k)
  rw [← cup2key, h, cup2key, splitOnce_append 58 _ _ (Dec.not_mem_render (by decide) k')] at h1
  simp only [Option.some.injEq, Prod.mk.injEq] at h1
  exact ⟨(Dec.render_injective h1.1).symm, (Hex.encode_injective h1.2).symm⟩

/-- **txPreimage_injective.** With a hash of fixed output length, the signed pre-image determines
(hash of request, hash of response, key id, nonce): no component can be dropped, reordered or
traded against another. -/
theorem txPreimage_injective (C : Crypto) (hlen : ∀ m, (C.sha256 m).length = 32)
    (req resp req' resp' : Bytes) (k k' : Nat) (nn nn' : Bytes)
    (h : txPreimage C req resp k nn = txPreimage C req' resp' k' nn') :
    C.sha256 req = C.sha256 req' ∧ C.sha256 resp = C.sha256 resp' ∧ k = k' ∧ nn = nn' := by
  unfold txPreimage at h
  have h1 := List.append_inj h (by rw [hlen, hlen])
  have h2 := List.append_inj h1.2 (by rw [hlen, hlen])
  exact ⟨h1.1, h2.1, cup2key_injective _ _ _ _ h2.2⟩

/-- **for_no_other.** If one presented signature is accepted for two exchanges, then either the
exchanges agree on key id, nonce and the hashes of both bodies, or the same `(r, s)` verifies
under the registered key(s) for two *different* signed messages (which ECDSA unforgeability
excludes). -/
theorem for_no_other (C : Crypto) (hlen : ∀ m, (C.sha256 m).length = 32)
    (keys) (req nonce etag resp kid req' nonce' resp' kid') (sig : Bytes)
    (h1 : verifyResponse C keys req nonce etag resp kid = .ok sig)
    (h2 : verifyResponse C keys req' nonce' etag resp' kid' = .ok sig) :
    (C.sha256 req = C.sha256 req' ∧ C.sha256 resp = C.sha256 resp' ∧ kid = kid' ∧ nonce = nonce') ∨
    (∃ r s pk pk', lookupKey keys kid = some pk ∧ lookupKey keys kid' = some pk' ∧
      C.ecdsaVerify pk (C.sha256 (txPreimage C req resp kid nonce)) r s = true ∧
      C.ecdsaVerify pk' (C.sha256 (txPreimage C req' resp' kid' nonce')) r s = true ∧
      txPreimage C req resp kid nonce ≠ txPreimage C req' resp' kid' nonce') := by
  obtain ⟨r, s, pk, hd, hk, hv⟩ := verify_ok_signed h1
  obtain ⟨r', s', pk', hd', hk', hv'⟩ := verify_ok_signed h2
  rw [hd] at hd'
  simp only [Option.some.injEq, Prod.mk.injEq] at hd'
  obtain ⟨rfl, rfl⟩ := hd'
  by_cases heq : txPreimage C req resp kid nonce = txPreimage C req' resp' kid' nonce'
  · exact Or.inl (txPreimage_injective C hlen _ _ _ _ _ _ _ _ heq)
  · exact Or.inr ⟨r, s, pk, pk', hk, hk', hv, hv', heq⟩

/-- Any change to response body, retained request body, nonce or key id (everything the signed
message is made of) is rejected, for any ETag, when the signature the ETag carries does not verify
for the changed message under the key registered for the (possibly changed) id. -/
theorem tamper_rejected (C : Crypto) (keys) (req nonce etag resp kid)
    (hforge : ∀ pk r s, lookupKey keys kid = some pk →
      C.ecdsaVerify pk (txHash C req resp kid nonce) r s = false) :
    ∀ sig, verifyResponse C keys req nonce etag resp kid ≠ .ok sig := by
  intro sig h
  obtain ⟨r, s, pk, _, hk, hv⟩ := verify_ok_signed h
  rw [hforge pk r s hk] at hv
  cases hv

/-- A request body whose hash differs from the one in the ETag is rejected before any
signature check. -/
theorem tamper_req_hash_rejected (C : Crypto) (keys) (req nonce raw resp kid) (sigHex hashHex h)
    (hsp : splitOnce 58 (stripEtag raw) = some (sigHex, hashHex))
    (hh : Hex.decode hashHex = some h) (hne : h ≠ C.sha256 req) :
    ∀ sig, verifyResponse C keys req nonce (some raw) resp kid ≠ .ok sig := by
  intro sig hok
  cases hv : raw.all visible with
  | false => rw [err_not_string C keys req nonce raw resp kid hv] at hok; cases hok
  | true => rw [err_hash_mismatch C keys req nonce raw resp kid hv sigHex hashHex h hsp hh hne] at hok; cases hok

theorem unknown_key_rejected (C : Crypto) (keys) (req nonce etag resp kid)
    (hk : lookupKey keys kid = none) :
    ∀ sig, verifyResponse C keys req nonce etag resp kid ≠ .ok sig := by
  intro sig h
  obtain ⟨_, _, pk, _, hk', _⟩ := verify_ok_signed h
  rw [hk] at hk'; cases hk'

/-- The key map: the entry for an id is the last one listed with that id (latest first, then
historical; a later duplicate replaces an earlier one), and ids not listed have no key. -/
theorem lookupKey_none_iff (keys : List (Nat × PubKey)) (kid : Nat) :
    lookupKey keys kid = none ↔ ∀ e ∈ keys, e.1 ≠ kid := by
  induction keys with
  | nil => simp [lookupKey]
  | cons e es ih =>
    simp only [lookupKey, List.mem_cons, forall_eq_or_imp, ← ih]
    cases lookupKey es kid <;> simp

/-! ### `parse_etag` only ever strips ASCII bytes at the ends (**stripEtag_ascii**):
the result is a contiguous part of the input, so for a header that passed the visible-ASCII check
it is again ASCII (valid UTF-8), which discharges the `from_utf8_unchecked` obligation. -/

theorem dropPrefix_eq_some_iff (p s r : Bytes) : dropPrefix p s = some r ↔ s = p ++ r := by
  induction p generalizing s with
  | nil => simp [dropPrefix]
  | cons x p ih => cases s <;> simp [dropPrefix, ih, eq_comm (a := x)]

theorem dropEndQuote_eq_some_iff (s r : Bytes) : dropEndQuote s = some r ↔ s = r ++ [34] := by
  fun_cases dropEndQuote s with
  | case1 h =>
    obtain ⟨ys, rfl⟩ := List.getLast?_eq_some_iff.1 h
    simp
  | case2 h =>
    simp only [reduceCtorEq, false_iff]
    rintro rfl
    simp at h

theorem quoted_iff (p e inner : Bytes) :
    (dropPrefix p e).bind dropEndQuote = some inner ↔ e = p ++ inner ++ [34] := by
  simp [Option.bind_eq_some_iff, dropPrefix_eq_some_iff, dropEndQuote_eq_some_iff]

theorem stripEtag_infix (e : Bytes) : ∃ pre suf, e = pre ++ stripEtag e ++ suf := by
  unfold stripEtag
  split
  · exact ⟨_, _, (quoted_iff ..).1 ‹_›⟩
  · split
    · exact ⟨_, _, (quoted_iff ..).1 ‹_›⟩
    · exact ⟨[], [], by simp⟩

theorem stripEtag_ascii (e : Bytes) (h : ∀ b ∈ e, b.toNat < 128) : ∀ b ∈ stripEtag e, b.toNat < 128 := by
  obtain ⟨pre, suf, he⟩ := stripEtag_infix e
  intro b hb
  apply h
  rw [he]; simp [hb]

theorem visible_lt_128 (raw : Bytes) (h : raw.all visible = true) : ∀ b ∈ raw, b.toNat < 128 := by
  intro b hb
  have := List.all_eq_true.1 h b hb
  unfold visible at this
  simp only [Bool.or_eq_true, decide_eq_true_eq, Bool.and_eq_true] at this
  rcases this with h | h
  · subst h; decide
  · omega

theorem stripEtag_quoted (inner : Bytes) (h : inner.head? ≠ some 87) :
    stripEtag (34 :: (inner ++ [34])) = inner := by
  have h1 : (dropPrefix [87, 47, 34] (34 :: (inner ++ [34]))).bind dropEndQuote = none := rfl
  have h2 : (dropPrefix [34] (34 :: (inner ++ [34]))).bind dropEndQuote = some inner :=
    (quoted_iff ..).2 rfl
  rw [stripEtag, h1, h2]

theorem stripEtag_weak (inner : Bytes) :
    stripEtag (87 :: 47 :: 34 :: (inner ++ [34])) = inner := by
  have h1 : (dropPrefix [87, 47, 34] (87 :: 47 :: 34 :: (inner ++ [34]))).bind dropEndQuote = some inner :=
    (quoted_iff ..).2 rfl
  rw [stripEtag, h1]

theorem stripEtag_plain (e : Bytes) (h : e.getLast? ≠ some 34) : stripEtag e = e := by
  have key : ∀ p, (dropPrefix p e).bind dropEndQuote = none := fun p =>
    Option.eq_none_iff_forall_ne_some.2 fun inner hi => h (by simp [(quoted_iff ..).1 hi])
  simp [stripEtag, key]

/-! ### Non-vacuity (the hypotheses of `verify_iff` are satisfiable, with a toy `Crypto` whose
predicate accepts exactly one message, so the acceptance direction is exercised in the kernel;
the real SHA-256 / P-256 instantiation is exercised by the driver on every run) -/

def toyCrypto : Crypto := ⟨fun m => List.replicate 32 (UInt8.ofNat m.length),
  fun pk msg r s => pk == (1, 2) && msg == List.replicate 32 68 && r == 5 && s == 7⟩

-- ETag  "3006020105020107:0101…01"  (DER (5,7), hash of a 1-byte request body)
example :
    verifyResponse toyCrypto [(9, (1, 2))] [65] [0xAB] (some
      ([34] ++ Hex.encode [0x30, 6, 2, 1, 5, 2, 1, 7] ++ [58] ++ Hex.encode (List.replicate 32 1) ++ [34]))
      [66, 67] 9 matches .ok [0x30, 6, 2, 1, 5, 2, 1, 7] := by decide +kernel

example :
    verifyResponse toyCrypto [(9, (1, 2))] [65] [0xAB] (some
      (Hex.encode [0x30, 6, 2, 1, 5, 2, 1, 7] ++ [58] ++ Hex.encode (List.replicate 32 1)))
      [66, 67] 8 matches .error .keyIdMissing := by decide +kernel

example : Der.decodeSig [0x30, 6, 2, 1, 5, 2, 1, 7] = some (5, 7) := by decide +kernel
example : Der.decodeSig [0x30, 7, 2, 2, 0, 5, 2, 1, 7] = none := by decide +kernel       -- non-minimal INTEGER
example : Der.decodeSig [0x30, 6, 2, 1, 5, 2, 1, 7, 0] = none := by decide +kernel       -- trailing byte
example : Der.decodeSig [0x30, 0x81, 6, 2, 1, 5, 2, 1, 7] = none := by decide +kernel    -- long-form length

end Omaha.Cup
